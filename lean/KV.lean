import KV.ListLemmas
import KV.StringLemmas
import KV.PlanBasics
import KV.Accept
import KV.AcceptBfs
import KV.AcceptDfs
import KV.AcceptKahn
import KV.AcceptStmts
import KV.Acyclic
import KV.BfsFacts
import KV.Closure
import KV.Assemble
import KV.Bfs
import KV.BfsProof
import KV.C05
import KV.Calls
import KV.CallsValue
import KV.DataFlow
import KV.PlanStages
import KV.Dump
import KV.Emit
import KV.EmitF
import KV.EmittedF
import KV.Eval
import KV.FailWitness
import KV.Fop
import KV.Final
import KV.Imports
import KV.InstallModel
import KV.InstallProofs
import KV.InstallTree
import KV.Kahn
import KV.Kuhn
import KV.Pass1
import KV.Pass2
import KV.Plan
import KV.Plan2
import KV.Refuse
import KV.Signature
import KV.Stmts
import KV.StructExpand
import KV.StructRounds
import KV.StmtsProof
import KV.Suppliers
import KV.SupIns
import KV.SupProof
import KV.SupShape
import KV.SupPerm
import KV.T1
import KV.T1F
import KV.Value
import KV.VarPool
import KV.Wire
import KV.Props.C01
import KV.Props.C02
import KV.Props.C03
import KV.Props.C04
import KV.Props.C05
import KV.Props.C06
import KV.Props.C07
import KV.Props.C08
import KV.Props.C09
import KV.Props.C10
import KV.Props.C11
import KV.Props.C12
import KV.Props.C15
import KV.Props.C15Tree
import KV.Props.C16
import KV.ImportsProofs
import KV.WriteLast
import KV.TypeConv
import KV.TypeConvProofs
import KV.GenConv
import KV.GenConvProofs
import KV.BaseName
import KV.Reserved
import KV.ReservedProofs
import KV.WireProofs
import KV.Props.C13
import KV.Props.C14
import KV.T1FExec
import KV.Hygiene
import KV.Perm
