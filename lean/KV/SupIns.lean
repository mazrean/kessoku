import KV.Plan
import KV.ListLemmas
/-! Pass 1 of `NewGraph` is first-come insertion of a flat entry list.

The three nested loops of `pass1` all offer the supplier map an entry `(key, (provider, group))`: a key claimed by another
provider is a `dup`, one claimed by the same provider is skipped, a free one is appended.  `insAll` is that single loop,
`entries` the list it walks (`pass1_eq`).  On success the map looks up like the entry list (`insAll_lookup`); success is
agreement of every entry, on the provider, with the first binding of its key (`insAll_isOk_iff`).  `pass1_lookup_iff` and
`pass1_isOk_iff` say the same in terms of what the providers list. -/
namespace KV

def insAll : SupMap → SupMap → Except PlanErr SupMap
  | [], m => pure m
  | (t, (p, g)) :: es, m =>
    match m.lookup t with
    | some (p', _) => if p' ≠ p then throw (.dup t) else insAll es m
    | none => insAll es (m ++ [(t, (p, g))])

theorem insAll_append (a b : SupMap) (m : SupMap) :
    insAll (a ++ b) m = (insAll a m >>= insAll b) := by
  induction a generalizing m with
  | nil => rfl
  | cons e a ih =>
    obtain ⟨t, p, g⟩ := e
    simp only [List.cons_append, insAll]
    split
    · split
      · rfl
      · exact ih m
    · exact ih _

theorem insAll_lookup {es m m' : SupMap} (h : insAll es m = .ok m') (t : Nat) :
    m'.lookup t = (m ++ es).lookup t := by
  induction es generalizing m with
  | nil => cases h; rw [List.append_nil]
  | cons e es ih =>
    obtain ⟨t0, p, g⟩ := e
    simp only [insAll] at h
    split at h
    · rename_i hl
      split at h
      · cases h
      · rw [ih h, List.lookup_append_cons_of_some hl]
    · rw [ih h, List.append_assoc]; rfl

theorem insAll_err {es m : SupMap} {e : PlanErr} (h : insAll es m = .error e) : ∃ t, e = .dup t := by
  induction es generalizing m with
  | nil => cases h
  | cons e0 es ih =>
    obtain ⟨t0, p, g⟩ := e0
    simp only [insAll] at h
    split at h
    · split at h
      · cases h; exact ⟨t0, rfl⟩
      · exact ih h
    · exact ih h

theorem insAll_isOk_iff {es m : SupMap} :
    (∃ m', insAll es m = .ok m') ↔ ∀ e ∈ es, ∀ v, (m ++ es).lookup e.1 = some v → v.1 = e.2.1 := by
  induction es generalizing m with
  | nil => exact ⟨fun _ _ he => (nomatch he), fun _ => ⟨m, rfl⟩⟩
  | cons e0 es ih =>
    obtain ⟨t0, p, g⟩ := e0
    simp only [insAll, List.forall_mem_cons]
    split
    · -- the key is bound in `m`, to `p'`: the head is never looked up, and is accepted iff `p' = p`
      rename_i p' g' hl
      simp only [List.lookup_append_cons_of_some hl, List.lookup_append_of_some es hl, Option.some.injEq, forall_eq']
      split
      · rename_i hne
        exact iff_of_false (fun ⟨_, h⟩ => nomatch h) fun h => hne h.1
      · rename_i heq
        rw [ih]; exact (and_iff_right (Classical.not_not.mp heq)).symm
    · -- the key is free: the head is appended to `m`, and is what its key looks up
      rename_i hl
      have hhead : (m ++ (t0, (p, g)) :: es).lookup t0 = some (p, g) := by
        rw [List.lookup_append, hl, List.lookup_cons_self]; rfl
      rw [ih, List.append_assoc, hhead]
      exact (and_iff_right fun v hv => by cases hv; rfl).symm

def groupEntries (pi gi : Nat) (gs : List (List Nat)) : SupMap :=
  (gs.zipIdx gi).flatMap fun (g, j) => g.map (·, (pi, j))

def entries (pi : Nat) (ps : List PSpec) : SupMap :=
  (ps.zipIdx pi).flatMap fun (p, k) => if p.kind == 1 then [] else groupEntries k 0 p.provides

theorem groupEntries_cons (pi gi : Nat) (g : List Nat) (gs : List (List Nat)) :
    groupEntries pi gi (g :: gs) = g.map (·, (pi, gi)) ++ groupEntries pi (gi + 1) gs := rfl

theorem entries_cons (pi : Nat) (p : PSpec) (ps : List PSpec) :
    entries pi (p :: ps) = (if p.kind == 1 then [] else groupEntries pi 0 p.provides) ++ entries (pi + 1) ps := rfl

theorem pass1Types_eq (pi gi : Nat) (ts : List Nat) (m : SupMap) :
    pass1Types pi gi ts m = insAll (ts.map (·, (pi, gi))) m := by
  induction ts generalizing m with
  | nil => rfl
  | cons t ts ih =>
    simp only [pass1Types, List.map_cons, insAll]
    cases m.lookup t with
    | none => exact ih _
    | some x =>
      simp only
      split
      · rfl
      · exact ih m

theorem pass1Groups_eq (pi gi : Nat) (gs : List (List Nat)) (m : SupMap) :
    pass1Groups pi gi gs m = insAll (groupEntries pi gi gs) m := by
  induction gs generalizing gi m with
  | nil => rfl
  | cons g gs ih =>
    simp only [pass1Groups, groupEntries_cons, insAll_append, pass1Types_eq, ih]

theorem pass1_eq (pi : Nat) (ps : List PSpec) (m : SupMap) : pass1 pi ps m = insAll (entries pi ps) m := by
  induction ps generalizing pi m with
  | nil => rfl
  | cons p ps ih =>
    simp only [pass1, entries_cons]
    split
    · exact ih _ _
    · simp only [insAll_append, pass1Groups_eq, ih]

/-- index of the first result group containing `t` -/
def groupIdx (t : Nat) : List (List Nat) → Nat
  | [] => 0
  | g :: gs => if t ∈ g then 0 else groupIdx t gs + 1

/-- type key `t` is listed (as a result type or a bound interface) by provider `q` -/
def Lists (q : PSpec) (t : Nat) : Prop := ∃ g ∈ q.provides, t ∈ g

theorem groupIdx_lt {t : Nat} {gs : List (List Nat)} (h : ∃ g ∈ gs, t ∈ g) : groupIdx t gs < gs.length := by
  induction gs with
  | nil => obtain ⟨_, hg, _⟩ := h; cases hg
  | cons g gs ih =>
    simp only [groupIdx, List.length_cons]
    split
    · omega
    · rename_i hn
      obtain ⟨g', hg', ht⟩ := h
      rcases List.mem_cons.mp hg' with rfl | hg'
      · exact absurd ht hn
      · have := ih ⟨g', hg', ht⟩; omega

theorem mem_groupEntries {pi gi : Nat} {gs : List (List Nat)} {t p : Nat} :
    (∃ g, (t, (p, g)) ∈ groupEntries pi gi gs) ↔ p = pi ∧ ∃ grp ∈ gs, t ∈ grp := by
  simp only [groupEntries, List.mem_flatMap, Prod.exists, List.mem_zipIdx_add, List.mem_map, Prod.mk.injEq]
  constructor
  · rintro ⟨_, grp, _, ⟨j, hj, _⟩, _, ha, rfl, rfl, _⟩
    exact ⟨rfl, grp, List.mem_of_getElem? hj, ha⟩
  · rintro ⟨rfl, grp, hg, ha⟩
    obtain ⟨j, hj⟩ := List.mem_iff_getElem?.mp hg
    exact ⟨_, grp, _, ⟨j, hj, rfl⟩, t, ha, rfl, rfl, rfl⟩

theorem mem_entries {pi : Nat} {ps : List PSpec} {t p : Nat} :
    (∃ g, (t, (p, g)) ∈ entries pi ps) ↔ ∃ k q, ps[k]? = some q ∧ q.kind ≠ 1 ∧ Lists q t ∧ p = pi + k := by
  simp only [entries, List.mem_flatMap, Prod.exists, List.mem_zipIdx_add]
  constructor
  · rintro ⟨g, q, _, ⟨k, hk, rfl⟩, h⟩
    split at h
    · cases h
    · rename_i hk1
      obtain ⟨rfl, hl⟩ := mem_groupEntries.mp ⟨g, h⟩
      exact ⟨k, q, hk, fun e => hk1 (beq_iff_eq.mpr e), hl, rfl⟩
  · rintro ⟨k, q, hk, hk1, hl, rfl⟩
    obtain ⟨g, hg⟩ := mem_groupEntries.mpr ⟨rfl, hl⟩
    exact ⟨g, q, _, ⟨k, hk, rfl⟩, by rwa [if_neg fun e => hk1 (beq_iff_eq.mp e)]⟩

theorem groupEntries_lookup {pi gi : Nat} {gs : List (List Nat)} {t p g : Nat}
    (h : (groupEntries pi gi gs).lookup t = some (p, g)) : p = pi ∧ g = gi + groupIdx t gs ∧ ∃ grp ∈ gs, t ∈ grp := by
  induction gs generalizing gi with
  | nil => cases h
  | cons g0 gs ih =>
    rw [groupEntries_cons, List.lookup_append, List.lookup_map_const] at h
    rw [groupIdx]
    by_cases ht : t ∈ g0
    · rw [if_pos ht] at h ⊢
      cases h
      exact ⟨rfl, rfl, g0, List.mem_cons_self, ht⟩
    · rw [if_neg ht] at h ⊢
      obtain ⟨rfl, rfl, grp, hg, hgt⟩ := ih h
      exact ⟨rfl, by omega, grp, List.mem_cons_of_mem _ hg, hgt⟩

theorem entries_lookup {pi : Nat} {ps : List PSpec} {t p g : Nat} (h : (entries pi ps).lookup t = some (p, g)) :
    ∃ k q, ps[k]? = some q ∧ q.kind ≠ 1 ∧ Lists q t ∧ p = pi + k ∧ g = groupIdx t q.provides := by
  rw [entries, List.lookup_flatMap] at h
  obtain ⟨⟨q, _⟩, hm, hq⟩ := List.exists_of_findSome?_eq_some h
  obtain ⟨k, hk, rfl⟩ := List.mem_zipIdx_add.mp hm
  dsimp only at hq
  split at hq
  · cases hq
  · rename_i hk1
    obtain ⟨rfl, rfl, hl⟩ := groupEntries_lookup hq
    exact ⟨k, q, hk, fun e => hk1 (beq_iff_eq.mpr e), hl, rfl, Nat.zero_add _⟩

theorem pass1_err {ps : List PSpec} {pi : Nat} {m : SupMap} {e : PlanErr} (h : pass1 pi ps m = .error e) :
    ∃ t, e = .dup t := by
  rw [pass1_eq] at h; exact insAll_err h

theorem pass1_lookup_iff {ps : List PSpec} {m' : SupMap} (h : pass1 0 ps [] = .ok m') {t p g : Nat} :
    m'.lookup t = some (p, g) ↔ ∃ q, ps[p]? = some q ∧ q.kind ≠ 1 ∧ Lists q t ∧ g = groupIdx t q.provides := by
  rw [pass1_eq] at h
  rw [insAll_lookup h, List.nil_append]
  constructor
  · intro hl
    obtain ⟨k, q, hk, hq, hlq, hp, hg⟩ := entries_lookup hl
    exact ⟨q, by rwa [hp, Nat.zero_add], hq, hlq, hg⟩
  · rintro ⟨q, hk, hq, hl, rfl⟩
    obtain ⟨g', hg'⟩ := mem_entries.mpr ⟨p, q, hk, hq, hl, (Nat.zero_add p).symm⟩
    cases hlk : (entries 0 ps).lookup t with
    | none => exact absurd (List.lookup_eq_none_iff.mp hlk _ hg') (by simp)
    | some v =>
      obtain ⟨v1, v2⟩ := v
      have hv : v1 = p := insAll_isOk_iff.mp ⟨m', h⟩ _ hg' _ hlk
      obtain ⟨k', q', hk', _, _, hp', hg''⟩ := entries_lookup hlk
      rw [hv, Nat.zero_add] at hp'
      subst hp'
      rw [hk] at hk'; cases hk'
      rw [hv, hg'']

theorem pass1_lookup_eq_none_iff {ps : List PSpec} {m' : SupMap} (h : pass1 0 ps [] = .ok m') {t : Nat} :
    m'.lookup t = none ↔ ∀ q ∈ ps, q.kind ≠ 1 → ¬ Lists q t := by
  constructor
  · intro hn q hq hk hl
    obtain ⟨k, hk'⟩ := List.mem_iff_getElem?.mp hq
    exact nomatch hn.symm.trans ((pass1_lookup_iff h).mpr ⟨q, hk', hk, hl, rfl⟩)
  · intro hn
    cases hl : m'.lookup t with
    | none => rfl
    | some v =>
      obtain ⟨q, hk, hq, hlq, _⟩ := (pass1_lookup_iff h (p := v.1) (g := v.2)).mp hl
      exact absurd hlq (hn q (List.mem_of_getElem? hk) hq)

theorem pass1_isOk_iff {ps : List PSpec} :
    (∃ m', pass1 0 ps [] = .ok m') ↔
      ∀ (i j : Nat) (qi qj : PSpec) (t : Nat), ps[i]? = some qi → ps[j]? = some qj → qi.kind ≠ 1 → qj.kind ≠ 1 → Lists qi t → Lists qj t →
        i = j := by
  constructor
  · rintro ⟨m', h⟩ i j qi qj t hi hj hki hkj hli hlj
    have h1 := (pass1_lookup_iff h).mpr ⟨qi, hi, hki, hli, rfl⟩
    rw [(pass1_lookup_iff h).mpr ⟨qj, hj, hkj, hlj, rfl⟩] at h1
    exact (Prod.mk.inj (Option.some.inj h1)).1.symm
  · intro hu
    simp only [pass1_eq]
    rw [insAll_isOk_iff, List.nil_append]
    rintro ⟨t, p, g⟩ he v hv
    obtain ⟨k, q, hk, hq, hl, rfl⟩ := mem_entries.mp ⟨g, he⟩
    obtain ⟨k', q', hk', hq', hl', hp', _⟩ := entries_lookup (p := v.1) (g := v.2) hv
    rw [hp', hu k' k q' q t hk' hk hq' hq hl' hl]

end KV
