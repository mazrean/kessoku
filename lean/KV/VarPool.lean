import KV.ListLemmas
import KV.StringLemmas
/-! The name allocator `VarPool.GetName` (`internal/kessoku/var_pool.go`): `getNameFix`, the scheme of the repository since
    fix 58c4ba8, with its freshness and totality proofs, and `getNameCur`, the scheme before that fix, kept with its
    collision witness `cur_not_fresh`. -/
namespace VP

abbrev Pool := List (String × Nat)

def count (p : Pool) (k : String) : Nat := (p.lookup k).getD 0

def setCount : Pool → String → Nat → Pool
  | [], k, n => [(k, n)]
  | (k', n') :: rest, k, n => if k' == k then (k', n) :: rest else (k', n') :: setCount rest k n

theorem count_cons (k' : String) (n' : Nat) (p : Pool) (k : String) :
    count ((k', n') :: p) k = if k = k' then n' else count p k := by
  by_cases h : k = k'
  · simp [count, List.lookup, h]
  · simp [count, List.lookup, beq_false_of_ne h, h]

theorem count_setCount (p : Pool) (k k2 : String) (n : Nat) :
    count (setCount p k n) k2 = if k2 = k then n else count p k2 := by
  induction p with
  | nil => simp only [setCount, count_cons]
  | cons hd tl ih =>
    obtain ⟨k', n'⟩ := hd
    rw [setCount]
    by_cases hk : k' = k
    · subst hk
      rw [if_pos (beq_self_eq_true _), count_cons, count_cons]; split <;> rfl
    · rw [if_neg (by simpa using hk), count_cons, count_cons, ih]
      split
      · rename_i e; rw [if_neg (e ▸ hk)]
      · rfl

theorem count_setCount_pos {p : Pool} {k k2 : String} {n : Nat} (hn : 0 < n) (h : k2 = k ∨ 0 < count p k2) :
    0 < count (setCount p k n) k2 := by
  rw [count_setCount]; split
  · exact hn
  · exact h.resolve_left ‹_›

theorem count_seed_pos (l : List String) (p : Pool) (k : String) (h : k ∈ l ∨ 0 < count p k) :
    0 < count (l.foldl (fun p k => setCount p k 1) p) k := by
  induction l generalizing p with
  | nil => simpa using h
  | cons a l ih =>
    refine ih _ ?_
    rw [count_setCount]
    split
    · exact .inr Nat.one_pos
    · rename_i hne
      exact h.imp (fun hm => (List.mem_cons.mp hm).resolve_left hne) id

/-! ### the scheme before fix 58c4ba8: the count is the suffix, the name handed out is not registered -/

def suffixed (base : String) (k : Nat) : String := base ++ toString k

def getNameCur (p : Pool) (base : String) : Pool × String :=
  let c := count p base
  (setCount p base (c + 1), if c == 0 then base else suffixed base (c - 1))

def runCur (p : Pool) : List String → Pool × List String
  | [] => (p, [])
  | b :: bs =>
    let (p1, n) := getNameCur p b
    let (p2, ns) := runCur p1 bs
    (p2, n :: ns)

/-- **C12 was false of that allocator**: requesting `foo`, `foo`, `foo0` hands out `foo0` twice. -/
theorem cur_not_fresh : ¬ (runCur [] ["foo", "foo", "foo0"]).2.Nodup := by decide

/-! ### the scheme of var_pool.go: skip candidates that are taken, register what is handed out -/

def candidate (base : String) (c : Nat) : String := if c == 0 then base else suffixed base (c - 1)

/-- try counts `c, c+1, …` until the candidate is unused -/
def findFree (p : Pool) (base : String) : Nat → Nat → Option (Nat × String)
  | 0, _ => none
  | fuel + 1, c =>
    if count p (candidate base c) == 0 then some (c, candidate base c) else findFree p base fuel (c + 1)

def getNameFix (p : Pool) (base : String) : Option (Pool × String) :=
  match findFree p base (p.length + 2) (count p base) with
  | none => none
  | some (c, name) =>
    let p1 := setCount p base (c + 1)
    let p2 := if name == base then p1 else setCount p1 name (count p1 name + 1)
    some (p2, name)

theorem findFree_spec (p : Pool) (base : String) (fuel c : Nat) (c' : Nat) (name : String)
    (h : findFree p base fuel c = some (c', name)) : count p name = 0 ∧ name = candidate base c' ∧ c ≤ c' := by
  induction fuel generalizing c with
  | zero => simp [findFree] at h
  | succ k ih =>
    simp only [findFree] at h
    split at h
    · rename_i hz
      cases h
      exact ⟨by simpa using hz, rfl, Nat.le_refl _⟩
    · obtain ⟨a, b, c2⟩ := ih (c + 1) h
      exact ⟨a, b, by omega⟩

theorem getNameFix_spec (p p' : Pool) (base name : String) (h : getNameFix p base = some (p', name)) :
    count p name = 0 ∧ 0 < count p' name ∧ ∀ k, 0 < count p k → 0 < count p' k := by
  rw [getNameFix] at h
  split at h
  · cases h
  · rename_i c nm hff
    cases h
    -- the new pool is the old one after one or two `setCount`s to a positive count, the last of them at `name`
    refine ⟨(findFree_spec p base _ _ c name hff).1, ?_, fun k hk => ?_⟩
    · split
      next hbase => exact count_setCount_pos (Nat.succ_pos _) (.inl (eq_of_beq hbase))
      next => exact count_setCount_pos (Nat.succ_pos _) (.inl rfl)
    · split
      next => exact count_setCount_pos (Nat.succ_pos _) (.inr hk)
      next => exact count_setCount_pos (Nat.succ_pos _) (.inr (count_setCount_pos (Nat.succ_pos _) (.inr hk)))

def runFix (p : Pool) : List String → Option (Pool × List String)
  | [] => some (p, [])
  | b :: bs =>
    match getNameFix p b with
    | none => none
    | some (p1, n) =>
      match runFix p1 bs with
      | none => none
      | some (p2, ns) => some (p2, n :: ns)

theorem runFix_cons (p : Pool) (b : String) (bs : List String) :
    runFix p (b :: bs) = (getNameFix p b).bind fun r => (runFix r.1 bs).map fun s => (s.1, r.2 :: s.2) := by
  rw [runFix]
  rcases getNameFix p b with _ | ⟨p1, n⟩
  · rfl
  · dsimp only [Option.bind_some]; cases runFix p1 bs <;> rfl

/-- **C12 for the allocator of var_pool.go**: over any request history, the names handed out are pairwise
    distinct and none of them was in use (reserved word, predeclared identifier, package-level name)
    before the history started. -/
theorem runFix_fresh (p p' : Pool) (reqs outs : List String) (h : runFix p reqs = some (p', outs)) :
    outs.Nodup ∧ (∀ o ∈ outs, count p o = 0) ∧ (∀ k, 0 < count p k → 0 < count p' k) ∧ (∀ o ∈ outs, 0 < count p' o) := by
  induction reqs generalizing p p' outs with
  | nil => cases h; exact ⟨List.nodup_nil, fun _ ho => absurd ho List.not_mem_nil, fun _ hk => hk, fun _ ho => absurd ho List.not_mem_nil⟩
  | cons b bs ih =>
    rw [runFix_cons] at h
    obtain ⟨⟨p1, n⟩, hg, h⟩ := Option.bind_eq_some_iff.1 h
    obtain ⟨⟨p2, ns⟩, hr, h⟩ := Option.map_eq_some_iff.1 h
    cases h
    obtain ⟨hz, hpos, hmono⟩ := getNameFix_spec p p1 b n hg
    obtain ⟨hnd, hunused, hmono2, hused⟩ := ih p1 _ ns hr
    -- the first name is in use from `p1` on, the later ones were not in use in `p1`, hence not in `p`
    refine ⟨List.nodup_cons.2 ⟨fun hmem => by have := hunused n hmem; omega, hnd⟩,
      List.forall_mem_cons.2 ⟨hz, fun o ho => Nat.eq_zero_of_not_pos fun hp => ?_⟩,
      fun k hk => hmono2 k (hmono k hk), List.forall_mem_cons.2 ⟨hmono2 _ hpos, hused⟩⟩
    have := hunused o ho
    have := hmono o hp
    omega

/-! ### the allocator always finds a name (totality): pigeonhole over the finite pool -/

theorem count_pos_mem_keys (p : Pool) (k : String) (h : count p k ≠ 0) : k ∈ p.map (·.1) :=
  Classical.byContradiction fun hn => h (by rw [count, List.lookup_eq_none_iff_not_mem_keys.2 hn]; rfl)

theorem findFree_total (p : Pool) (base : String) (c : Nat) : findFree p base (p.length + 2) c ≠ none := by
  -- what one try does; from the second try on the candidates are the suffixed names `base0`, `base1`, …
  have hf : ∀ k c, findFree p base (k + 1) c = none → candidate base c ∈ p.map (·.1) ∧ findFree p base k (c + 1) = none := by
    intro k c h
    simp only [findFree] at h
    split at h
    · cases h
    · rename_i hz
      exact ⟨count_pos_mem_keys p _ (by simpa using hz), h⟩
  have := List.search_ne_none (f := fun k c => findFree p base k (c + 1)) (name := suffixed base)
    (keys := p.map (·.1)) (fun _ _ => String.append_toString_inj base) (fun k c => hf k (c + 1)) c
  rw [List.length_map] at this
  exact fun h => this (hf _ c h).2

/-- the allocator never fails -/
theorem getNameFix_total (p : Pool) (base : String) : getNameFix p base ≠ none := by
  unfold getNameFix
  cases hff : findFree p base (p.length + 2) (count p base) with
  | none => exact absurd hff (findFree_total p base _)
  | some r => simp

end VP
