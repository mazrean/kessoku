import KV.BfsFacts
/-! Fuel adequacy of the BFS of `NewGraph`: the model's loop runs `bfsFuel provs` iterations, the Go loop runs until
    the queue is empty; they agree because `bfsFuel provs` iterations drain the queue (`bfsLoop_drained`). -/
namespace KV

theorem pickNode_count (sup : SupMap) (t : Nat) (st : BfsSt) :
    (pickNode sup t st).1.queue.length + st.nodes.length
      = st.queue.length + (pickNode sup t st).1.nodes.length := by
  rcases pickNode_nodes_cases sup t st with ⟨hn, hq⟩ | ⟨nd, hn, hq, _⟩ <;> rw [hn, hq]
  simp only [List.length_append, List.length_singleton]
  omega

/-- unless the queue empties, exactly `fuel` iterations run; each pops one entry and every created
node is pushed exactly once -/
theorem bfsLoop_count (provs : List PSpec) (sup : SupMap) (fuel : Nat) (st : BfsSt) :
    (bfsLoop provs sup fuel st).queue = [] ∨
    (bfsLoop provs sup fuel st).queue.length + st.nodes.length + fuel
      = st.queue.length + (bfsLoop provs sup fuel st).nodes.length := by
  refine (bfsLoop_induction (provs := provs) (sup := sup) (fuel := fuel) (st := st)
    (P := fun k st' _ => st'.queue.length + st.nodes.length + fuel = st.queue.length + st'.nodes.length + k)
    ?_ ?_ ?_ id rfl).elim fun k h => h.2.symm.imp_right fun h0 => (h0 ▸ h.1 : _ = _ + 0)
  · intro _ st' _ q hq _ h
    rw [hq, List.length_cons] at h
    show q.length + _ + _ = _ + st'.nodes.length + _
    omega
  · intro _ st' _ q hq _ h
    rw [hq, List.length_cons] at h
    show q.length + _ + _ = _ + st'.nodes.length + _
    omega
  · intro _ st' _ _ t _ h
    have := pickNode_count sup t st'
    show (pickNode sup t st').1.queue.length + _ + _ = _ + (pickNode sup t st').1.nodes.length + _
    omega

theorem requires_mem_allReq (provs : List PSpec) (p : Nat) :
    ∀ t ∈ (provs.getD p default).requires, t ∈ provs.flatMap (·.requires) :=
  List.getD_forall (P := fun q => ∀ t ∈ q.requires, t ∈ provs.flatMap (·.requires)) (fun _ h => by cases h)
    (fun q hq t ht => List.mem_flatMap.mpr ⟨q, hq, ht⟩) p

/-- Every node but the root is registered under its key (`RegInv`), so different nodes have different keys; and the key
    of a node is that of the slot it feeds (`OutBack`, `EProv`): a provider index, or a required type key. -/
theorem BfsFacts.nodes_le {provs : List PSpec} {sup : SupMap} (hsup : SupOK provs sup) {rp : Nat} {st : BfsSt}
    (hf : BfsFacts provs sup rp st) : st.nodes.length ≤ 1 + provs.length + (provs.flatMap (·.requires)).length := by
  have hle := List.le_length_of_injOn (n := st.nodes.length - 1)
    (l := (List.range provs.length).map Sum.inl ++ (provs.flatMap (·.requires)).map Sum.inr)
    (fun i => nodeKey (st.nodes.getD (i + 1) default)) ?_ ?_
  · simp only [List.length_append, List.length_map, List.length_range] at hle
    omega
  · exact fun i j hi hj e => Nat.succ.inj (hf.reg.key_inj (Nat.succ_pos i) (Nat.succ_pos j) (by omega) (by omega) e)
  · intro i hi
    obtain ⟨e, he, _⟩ := hf.outBack (i + 1) (Nat.succ_pos i) (by omega)
    obtain ⟨_, t, ht, hpo⟩ := hf.prov.consumer he
    unfold nodeKey
    rcases hpo with ⟨p, gi, hl, hna, hp, _⟩ | ⟨_, ha, hty, _⟩
    · rw [hna, if_neg Bool.false_ne_true, hp]
      exact List.mem_append_left _ (List.mem_map_of_mem (List.mem_range.mpr (hsup.lt hl)))
    · rw [ha, if_pos rfl, hty]
      exact List.mem_append_right _ (List.mem_map_of_mem (requires_mem_allReq provs _ t ht))

theorem bfsFuel_bound (provs : List PSpec) :
    1 + provs.length + (provs.flatMap (·.requires)).length < bfsFuel provs := by
  have h := List.foldl_add_length (provs.map (·.requires)) 0
  rw [List.foldl_map, List.map_map, Nat.zero_add] at h
  have h2 : (provs.flatMap (·.requires)).length = (provs.map (List.length ∘ (·.requires))).sum := List.length_flatMap
  unfold bfsFuel
  omega

theorem bfsLoop_drained {provs : List PSpec} {sup : SupMap} (hsup : SupOK provs sup) (rp : Nat) :
    (bfsLoop provs sup (bfsFuel provs) (bfsInit rp)).queue = [] := by
  rcases bfsLoop_count provs sup (bfsFuel provs) (bfsInit rp) with h | h
  · exact h
  · have hn := (bfsLoop_facts hsup rp (bfsFuel provs)).nodes_le hsup
    have hb := bfsFuel_bound provs
    have h1 : (bfsInit rp).nodes.length = 1 := rfl
    have h2 : (bfsInit rp).queue.length = 1 := rfl
    rw [h1, h2] at h
    exact List.eq_nil_of_length_eq_zero (by omega)

/-- on a declaration whose two providers share an unsupplied requirement the queue is drained, by evaluation -/
example : (bfsLoop [{ requires := [7, 8], provides := [[1]] }, { requires := [8], provides := [[7]] }]
    [(1, (0, 0)), (7, (1, 0))]
    (bfsFuel [{ requires := [7, 8], provides := [[1]] }, { requires := [8], provides := [[7]] }])
    (bfsInit 0)).queue = [] := by decide

end KV
#print axioms KV.bfsLoop_drained
