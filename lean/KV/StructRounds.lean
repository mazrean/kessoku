import KV.StructExpand
/-! Struct expansion by rounds (`pass2`, the repaired planner) versus expansion in declaration order (`pass2Ordered`).

One round is an ordered expansion of the providers it does not defer (`pass2Round_eq`).  Everything about `pass2` goes
through `pass2_cases`: a run on `sps` is a run of `pass2Ordered` on a reordering `ord ++ pend` of `sps` — `ord` the providers
in the order in which they really are expanded, `pend` those that never become expandable — that fails with the `dup` of
`pass2Ordered ord`, or succeeds with its result (`pend = []`), or fails with `orphan` of a member of `pend`, none of whose
struct types has a supplier after `ord`.  The fuel never runs out (`pass2Rounds_fuel`), so `pass2` unfolds without it
(`pass2_cons`) and the induction is on the number of pending providers. -/
namespace KV

theorem pass2Ordered_append (pre post : List PSpec) (provs : List PSpec) (m : SupMap) :
    pass2Ordered (pre ++ post) provs m =
      match pass2Ordered pre provs m with
      | .error e => .error e
      | .ok r => pass2Ordered post r.1 r.2 := by
  induction pre generalizing provs m with
  | nil => rfl
  | cons sp pre ih =>
    cases hl : m.lookup sp.structTy with
    | none => rw [List.cons_append, pass2Ordered_cons_none _ provs hl, pass2Ordered_cons_none _ provs hl]
    | some v =>
      rw [List.cons_append, pass2Ordered_cons_some _ provs hl, pass2Ordered_cons_some _ provs hl]
      cases expandFields sp.structTy sp.decl sp.fields provs m with
      | error e => rfl
      | ok r => exact ih r.1 r.2

theorem pass2Round_nil (provs : List PSpec) (m : SupMap) : pass2Round [] provs m = .ok (provs, m, []) := rfl

theorem pass2Round_cons_none {sp : PSpec} (sps : List PSpec) (provs : List PSpec) {m : SupMap}
    (hl : m.lookup sp.structTy = none) :
    pass2Round (sp :: sps) provs m =
      match pass2Round sps provs m with
      | .error e => .error e
      | .ok r => .ok (r.1, r.2.1, sp :: r.2.2) := by
  simp only [pass2Round, hl]
  cases pass2Round sps provs m with
  | error e => rfl
  | ok r => rfl

theorem pass2Round_cons_some {sp : PSpec} (sps : List PSpec) (provs : List PSpec) {m : SupMap} {v : Nat × Nat}
    (hl : m.lookup sp.structTy = some v) :
    pass2Round (sp :: sps) provs m =
      match expandFields sp.structTy sp.decl sp.fields provs m with
      | .error e => .error e
      | .ok r => pass2Round sps r.1 r.2 := by
  simp only [pass2Round, hl]
  cases expandFields sp.structTy sp.decl sp.fields provs m with
  | error e => rfl
  | ok r => rfl

theorem pass2Round_eq (sps provs : List PSpec) (m : SupMap) :
    ∃ ex d, (ex ++ d).Perm sps ∧
      pass2Round sps provs m = (pass2Ordered ex provs m).map (fun r => (r.1, r.2, d)) ∧
      (∀ e, pass2Ordered ex provs m = .error e → ∃ t, e = .dup t) ∧
      (ex = [] → ∀ sp ∈ sps, m.lookup sp.structTy = none) := by
  induction sps generalizing provs m with
  | nil => exact ⟨[], [], List.Perm.refl _, rfl, nofun, fun _ _ h => nomatch h⟩
  | cons sp sps ih =>
    cases hl : m.lookup sp.structTy with
    | none =>
      obtain ⟨ex, d, hp, heq, hdup, hnone⟩ := ih provs m
      refine ⟨ex, sp :: d, List.perm_middle.trans (hp.cons sp), ?_, hdup,
        fun hex => List.forall_mem_cons.mpr ⟨hl, hnone hex⟩⟩
      rw [pass2Round_cons_none sps provs hl, heq]
      cases pass2Ordered ex provs m <;> rfl
    | some v =>
      rw [pass2Round_cons_some sps provs hl]
      cases he : expandFields sp.structTy sp.decl sp.fields provs m with
      | error e =>
        have ho : pass2Ordered [sp] provs m = .error e := by rw [pass2Ordered_cons_some [] provs hl, he]
        refine ⟨[sp], sps, List.Perm.refl _, by rw [ho]; rfl, fun e' h => ?_, fun h => nomatch h⟩
        obtain ⟨t, _, rfl⟩ := expandFields_err he
        rw [ho] at h; cases h; exact ⟨t, rfl⟩
      | ok r1 =>
        obtain ⟨ex, d, hp, heq, hdup, _⟩ := ih r1.1 r1.2
        have ho : pass2Ordered (sp :: ex) provs m = pass2Ordered ex r1.1 r1.2 := by
          rw [pass2Ordered_cons_some ex provs hl, he]
        exact ⟨sp :: ex, d, hp.cons sp, by rw [ho]; exact heq, by rw [ho]; exact hdup, fun h => nomatch h⟩

theorem pass2Round_ok {sps : List PSpec} {provs : List PSpec} {m : SupMap} {r : List PSpec × SupMap × List PSpec}
    (h : pass2Round sps provs m = .ok r) :
    ∃ ex, (ex ++ r.2.2).Perm sps ∧ pass2Ordered ex provs m = .ok (r.1, r.2.1) := by
  obtain ⟨ex, d, hp, heq, _⟩ := pass2Round_eq sps provs m
  rw [heq] at h
  cases ho : pass2Ordered ex provs m with
  | error e => rw [ho] at h; cases h
  | ok r' => rw [ho] at h; cases h; exact ⟨ex, hp, ho⟩

theorem pass2Round_length {sps : List PSpec} {provs : List PSpec} {m : SupMap} {r : List PSpec × SupMap × List PSpec}
    (h : pass2Round sps provs m = .ok r) : r.2.2.length ≤ sps.length := by
  obtain ⟨ex, hp, _⟩ := pass2Round_ok h
  rw [← hp.length_eq, List.length_append]; exact Nat.le_add_left ..

theorem pass2Round_extends {sps : List PSpec} {provs : List PSpec} {m : SupMap} {r : List PSpec × SupMap × List PSpec}
    (h : pass2Round sps provs m = .ok r) : ∃ ex, r.1 = provs ++ ex := by
  obtain ⟨ex, _, ho⟩ := pass2Round_ok h
  exact ⟨fieldProvsOf ex, (Prod.mk.inj (pass2Ordered_ok ho).2.2).1⟩

theorem pass2Round_of_ordered {sps : List PSpec} {provs : List PSpec} {m : SupMap} {r : List PSpec × SupMap}
    (h : pass2Ordered sps provs m = .ok r) : pass2Round sps provs m = .ok (r.1, r.2, []) := by
  induction sps generalizing provs m with
  | nil => cases h; rfl
  | cons sp sps ih =>
    cases hl : m.lookup sp.structTy with
    | none => rw [pass2Ordered_cons_none sps provs hl] at h; cases h
    | some v =>
      rw [pass2Ordered_cons_some sps provs hl] at h
      rw [pass2Round_cons_some sps provs hl]
      cases he : expandFields sp.structTy sp.decl sp.fields provs m with
      | error e => rw [he] at h; cases h
      | ok r1 => rw [he] at h; exact ih h

theorem pass2Rounds_nil (fuel : Nat) (provs : List PSpec) (m : SupMap) : pass2Rounds fuel [] provs m = .ok (provs, m) := by
  cases fuel <;> rfl

theorem pass2Rounds_succ_cons (fuel : Nat) (sp : PSpec) (sps : List PSpec) (provs : List PSpec) (m : SupMap) :
    pass2Rounds (fuel + 1) (sp :: sps) provs m =
      match pass2Round (sp :: sps) provs m with
      | .error e => .error e
      | .ok r =>
        if r.2.2.length = (sp :: sps).length then .error (.orphan (r.2.2.headD sp).structTy)
        else pass2Rounds fuel r.2.2 r.1 r.2.1 := by
  rw [pass2Rounds]
  cases pass2Round (sp :: sps) provs m with
  | error e => rfl
  | ok r => rfl

/-- the fuel is never exhausted: any two amounts of fuel ≥ the number of pending providers give the same result -/
theorem pass2Rounds_fuel (fuel : Nat) : ∀ (fuel' : Nat) (sps provs : List PSpec) (m : SupMap),
    sps.length ≤ fuel → sps.length ≤ fuel' → pass2Rounds fuel sps provs m = pass2Rounds fuel' sps provs m := by
  induction fuel with
  | zero =>
    intro fuel' sps provs m h1 _
    rw [List.eq_nil_of_length_eq_zero (Nat.le_zero.mp h1), pass2Rounds_nil, pass2Rounds_nil]
  | succ fuel ih =>
    intro fuel' sps provs m h1 h2
    cases sps with
    | nil => rw [pass2Rounds_nil, pass2Rounds_nil]
    | cons sp sps =>
      cases fuel' with
      | zero => cases h2
      | succ fuel' =>
        -- both runs start with the same round, and what it defers fits the fuel left on either side
        rw [pass2Rounds_succ_cons, pass2Rounds_succ_cons]
        cases hr : pass2Round (sp :: sps) provs m with
        | error e => rfl
        | ok r =>
          dsimp only
          split
          · rfl
          · rename_i hnp
            have hle := pass2Round_length hr
            simp only [List.length_cons] at hle hnp h1 h2
            exact ih fuel' _ _ _ (by omega) (by omega)

theorem pass2_nil (provs : List PSpec) (m : SupMap) : pass2 [] provs m = .ok (provs, m) := rfl

theorem pass2_cons (sp : PSpec) (sps provs : List PSpec) (m : SupMap) :
    pass2 (sp :: sps) provs m =
      match pass2Round (sp :: sps) provs m with
      | .error e => .error e
      | .ok r =>
        if r.2.2.length = (sp :: sps).length then .error (.orphan (r.2.2.headD sp).structTy)
        else pass2 r.2.2 r.1 r.2.1 := by
  rw [pass2, pass2Rounds_succ_cons]
  cases hr : pass2Round (sp :: sps) provs m with
  | error e => rfl
  | ok r =>
    dsimp only
    split
    · rfl
    · exact pass2Rounds_fuel _ _ _ _ _ (pass2Round_length hr) (Nat.le_succ _)

/-- what a run of the rounds does, in terms of the ordered expansion -/
def Pass2Outcome (run : Except PlanErr (List PSpec × SupMap)) (ord pend : List PSpec) (provs : List PSpec) (m : SupMap) :
    Prop :=
  (∃ e, pass2Ordered ord provs m = .error e ∧ (∃ t, e = .dup t) ∧ run = .error e) ∨
  (∃ r, pass2Ordered ord provs m = .ok r ∧ pend = [] ∧ run = .ok r) ∨
  (∃ r sp, pass2Ordered ord provs m = .ok r ∧ sp ∈ pend ∧ (∀ sp' ∈ pend, r.2.lookup sp'.structTy = none) ∧
    run = .error (.orphan sp.structTy))

/-- **`pass2` is the ordered expansion of a reordering** `ord ++ pend` of the struct providers (see the header) -/
theorem pass2_cases (sps provs : List PSpec) (m : SupMap) :
    ∃ ord pend, (ord ++ pend).Perm sps ∧ Pass2Outcome (pass2 sps provs m) ord pend provs m := by
  induction hn : sps.length using Nat.strongRecOn generalizing sps provs m with
  | _ n ih =>
    cases sps with
    | nil => exact ⟨[], [], List.Perm.refl _, Or.inr (Or.inl ⟨(provs, m), rfl, rfl, pass2_nil provs m⟩)⟩
    | cons sp sps =>
      obtain ⟨ex, d, hp, heq, hdup, hnone⟩ := pass2Round_eq (sp :: sps) provs m
      rw [pass2_cons, heq]
      cases ho : pass2Ordered ex provs m with
      | error e => exact ⟨ex, d, hp, Or.inl ⟨e, ho, hdup e ho, rfl⟩⟩
      | ok r =>
        simp only [Except.map]
        have hlen := hp.length_eq
        rw [List.length_append] at hlen
        by_cases hnp : d.length = (sp :: sps).length
        · -- no progress: nothing was expanded, and the first deferred provider is reported
          rw [if_pos hnp]
          have hex : ex = [] := List.eq_nil_of_length_eq_zero (by omega)
          subst hex
          cases ho
          refine ⟨[], d, hp, Or.inr (Or.inr ⟨(provs, m), d.headD sp, rfl, ?_,
            fun sp' h' => hnone rfl sp' (hp.mem_iff.mp h'), rfl⟩)⟩
          cases d with
          | nil => cases hnp
          | cons a d => exact List.mem_cons_self
        · -- the deferred providers are fewer: their run is an ordered expansion of `ord ++ pend`, after `ex`
          rw [if_neg hnp]
          obtain ⟨ord, pend, hp2, hout⟩ := ih d.length (by omega) d r.1 r.2 rfl
          refine ⟨ex ++ ord, pend, ?_, ?_⟩
          · rw [List.append_assoc]
            exact (List.Perm.append_left ex hp2).trans hp
          · have happ : pass2Ordered (ex ++ ord) provs m = pass2Ordered ord r.1 r.2 := by
              rw [pass2Ordered_append, ho]
            unfold Pass2Outcome
            rw [happ]
            exact hout

theorem pass2_ok_ordered {sps provs : List PSpec} {m : SupMap} {r : List PSpec × SupMap} (h : pass2 sps provs m = .ok r) :
    ∃ sps', sps'.Perm sps ∧ pass2Ordered sps' provs m = .ok r := by
  obtain ⟨ord, pend, hp, hout⟩ := pass2_cases sps provs m
  rw [h] at hout
  rcases hout with ⟨e, _, _, he⟩ | ⟨r', ho, hpe, hr⟩ | ⟨r', sp, _, _, _, he⟩
  · cases he
  · cases hr; subst hpe
    rw [List.append_nil] at hp
    exact ⟨ord, hp, ho⟩
  · cases he

theorem pass2_err_cases {sps provs : List PSpec} {m : SupMap} {e : PlanErr} (h : pass2 sps provs m = .error e) :
    ∃ ord pend, (ord ++ pend).Perm sps ∧
      ((pass2Ordered ord provs m = .error e ∧ ∃ t, e = .dup t) ∨
       (∃ r sp, pass2Ordered ord provs m = .ok r ∧ sp ∈ pend ∧ (∀ sp' ∈ pend, r.2.lookup sp'.structTy = none) ∧
         e = .orphan sp.structTy)) := by
  obtain ⟨ord, pend, hp, hout⟩ := pass2_cases sps provs m
  rw [h] at hout
  refine ⟨ord, pend, hp, ?_⟩
  rcases hout with ⟨e', ho, ht, he⟩ | ⟨r', _, _, hr⟩ | ⟨r', sp, ho, hsp, hn, he⟩
  · cases he; exact Or.inl ⟨ho, ht⟩
  · cases hr
  · cases he; exact Or.inr ⟨r', sp, ho, hsp, hn, rfl⟩

/-- **Conservative repair**: whatever the old planner accepted, the repaired one accepts with the same expanded
    provider list (same positions of the synthetic field providers) and the same supplier map. -/
theorem pass2_old_ok {sps provs : List PSpec} {m : SupMap} {r : List PSpec × SupMap}
    (h : pass2Ordered sps provs m = .ok r) : pass2 sps provs m = .ok r := by
  cases sps with
  | nil => exact h
  | cons sp sps =>
    rw [pass2_cons, pass2Round_of_ordered h]
    exact if_neg (Nat.succ_ne_zero _).symm

end KV

#print axioms KV.pass2_cases
#print axioms KV.pass2_old_ok
#print axioms KV.pass2Rounds_fuel
