import KV.InstallModel
/-! Soundness of the symbolic interpretation of install step lists: whatever the previous destination,
    the content and the number of bytes a torn write got through, the concrete run is the
    concretisation of the symbolic run.  Hence the decidable checks `crashSafe`, `completes`,
    `faultSafe` — evaluated on the step list regenerated from the source — imply the ∀-statements of C15. -/
namespace Inst

/-- concretisation parameters: previous destination, new content, bytes written by a torn write -/
structure Ctx where
  old : Option FileV
  content : List Nat
  j : Nat

def nOf (x : Ctx) : Cont → Nat
  | .empty => 0
  | .part => min x.j x.content.length
  | .full => x.content.length

def gCont (x : Ctx) (c : Cont) : List Nat := x.content.take (nOf x c)

def oldMode (x : Ctx) : Nat := (x.old.map (·.2)).getD 0

def gFile (x : Ctx) : SFile → Option FileV
  | .absent => none
  | .old none => x.old
  | .old (some m) => x.old.map (fun f => (f.1, m))
  | .new c (some m) => some (gCont x c, m)
  | .new c none => some (gCont x c, oldMode x)

theorem gFile_full (x : Ctx) (m : Nat) : gFile x (.new .full (some m)) = some (x.content, m) :=
  congrArg (fun l => some (l, m)) List.take_length

def gSt (x : Ctx) (s : SSt) : St := { dest := gFile x s.dest, tmp := gFile x s.tmp }

/-- symbolic files that mention the previous file are only meaningful when it exists -/
def FileOK (x : Ctx) : SFile → Prop
  | .absent => True
  | .old _ => x.old.isSome
  | .new _ (some _) => True
  | .new _ none => x.old.isSome

/-- the temp file is never the previous file: it is absent or new bytes with an explicit mode -/
def TmpOK : SFile → Prop
  | .absent => True
  | .old _ => False
  | .new _ (some _) => True
  | .new _ none => False

theorem TmpOK.cases {f : SFile} (h : TmpOK f) : f = .absent ∨ ∃ c m, f = .new c (some m) := by
  rcases f with _ | _ | ⟨c, _ | m⟩
  · exact .inl rfl
  · exact h.elim
  · exact h.elim
  · exact .inr ⟨c, m, rfl⟩

structure StOK (x : Ctx) (s : SSt) : Prop where
  dest : FileOK x s.dest
  tmp : TmpOK s.tmp

def Sim (x : Ctx) (s : SSt) (t : St) : Prop := gSt x s = t ∧ StOK x s

/-- Only `write`, `chmod` and `rename` look at a file: the temp file is absent or new with an explicit mode (`TmpOK`), and a
    destination that mentions the previous file has one (`FileOK`).  Once the files looked at are known, both sides compute
    to the same state (`gCont` is the first `nOf` bytes, as `apply` writes them). -/
theorem sim_apply (x : Ctx) (c : Cont) (op : Op) {s : SSt} {t : St} (h : Sim x s t) :
    Sim x (sApply c op s) (apply x.content (nOf x c) op t) := by
  obtain ⟨rfl, hd, ht⟩ := h
  obtain ⟨d, tm⟩ := s
  obtain ⟨old, content, j⟩ := x
  cases op with
  | mkdirAll | sync | closeF | unknown => exact ⟨rfl, hd, ht⟩
  | createTemp => exact ⟨rfl, hd, trivial⟩
  | remove tg =>
    cases tg with
    | tmp => exact ⟨rfl, hd, trivial⟩
    | final => exact ⟨rfl, trivial, ht⟩
  | rename =>
    rcases ht.cases with rfl | ⟨c', m, rfl⟩
    · exact ⟨rfl, hd, ht⟩
    · exact ⟨rfl, trivial, trivial⟩
  | write tg =>
    cases tg with
    | tmp =>
      rcases ht.cases with rfl | ⟨c', m, rfl⟩
      · exact ⟨rfl, hd, ht⟩
      · exact ⟨rfl, hd, trivial⟩
    | final =>
      -- the new file takes the mode of the one it replaces; where that is the previous file's, there is one (`hd`)
      rcases d with _ | (_ | m) | ⟨c', _ | m⟩
      · exact ⟨rfl, trivial, ht⟩
      · obtain ⟨f, rfl⟩ := Option.isSome_iff_exists.1 hd
        exact ⟨rfl, hd, ht⟩
      · obtain ⟨f, rfl⟩ := Option.isSome_iff_exists.1 hd
        exact ⟨rfl, trivial, ht⟩
      · exact ⟨rfl, hd, ht⟩
      · exact ⟨rfl, trivial, ht⟩
  | chmod tg m =>
    cases tg with
    | tmp =>
      rcases ht.cases with rfl | ⟨c', m', rfl⟩
      · exact ⟨rfl, hd, ht⟩
      · exact ⟨rfl, hd, trivial⟩
    | final =>
      rcases d with _ | (_ | m') | ⟨c', _ | m'⟩
      · exact ⟨rfl, trivial, ht⟩
      · exact ⟨rfl, hd, ht⟩
      · obtain ⟨f, rfl⟩ := Option.isSome_iff_exists.1 hd
        exact ⟨rfl, hd, ht⟩
      · exact ⟨rfl, trivial, ht⟩
      · exact ⟨rfl, trivial, ht⟩

theorem sim_sInit (old : Option FileV) (content : List Nat) (j : Nat) :
    Sim ⟨old, content, j⟩ (sInit old.isSome) { dest := old, tmp := none } := by
  cases old <;> exact ⟨rfl, by trivial, trivial⟩

theorem nOf_full (x : Ctx) : nOf x .full = x.content.length := rfl

theorem sim_runOps (x : Ctx) (ops : List Op) {s : SSt} {t : St} (h : Sim x s t) :
    Sim x (sRunOps ops s) (runOps x.content ops t) :=
  List.foldl_rel (r := Sim x) h fun op _ _ _ hs => sim_apply x .full op hs

theorem sim_runCleanup (x : Ctx) (cl : List Cleanup) (closed failed : Bool) {s : SSt} {t : St} (h : Sim x s t) :
    Sim x (sRunCleanup cl closed failed s) (runCleanup x.content cl closed failed t) :=
  List.foldl_rel (r := Sim x) h fun c _ _ _ hs => by
    split
    · exact sim_apply x .full c.op hs
    · exact hs

theorem sim_torn (x : Ctx) (op : Op) {s : SSt} {t : St} (h : Sim x s t) :
    Sim x (sTornApply .part op s) (tornApply x.content (min x.j x.content.length) op t) := by
  cases op with
  | write tg => exact sim_apply x .part (.write tg) h
  | _ => exact h

theorem sim_runCrash (x : Ctx) (steps : List Step) (k : Nat) {s : SSt} {t : St} (h : Sim x s t) :
    Sim x (sRunCrash steps k true s) (runCrash x.content steps k x.j t) := by
  have h1 := sim_runOps x ((steps.take k).map (·.op)) h
  simp only [sRunCrash, runCrash]
  cases steps[k]? with
  | none => exact h1
  | some st => exact sim_torn x st.op h1

theorem sim_runOK (x : Ctx) (steps : List Step) (cl : List Cleanup) {s : SSt} {t : St} (h : Sim x s t) :
    Sim x (sRunOK steps cl s).st (runOK x.content steps cl t).st :=
  sim_runCleanup x cl _ false (sim_runOps x _ h)

theorem sim_runFail (x : Ctx) (steps : List Step) (cl : List Cleanup) (i : Nat) {s : SSt} {t : St} (h : Sim x s t) :
    Sim x (sRunFail steps cl i true s).st (runFail x.content steps cl i x.j t).st ∧
    (sRunFail steps cl i true s).reported = (runFail x.content steps cl i x.j t).reported := by
  have h1 := sim_runOps x ((steps.take i).map (·.op)) h
  simp only [sRunFail, runFail]
  cases steps[i]? with
  | none => exact ⟨sim_runOK x steps cl h, rfl⟩
  | some st =>
    have h2 := sim_torn x st.op h1
    simp only [contOf, if_true]
    split
    · exact ⟨sim_runCleanup x cl _ true h2, rfl⟩
    · exact ⟨sim_runCleanup x cl _ false (sim_runOps x _ h2), rfl⟩

theorem runCrash_min (content : List Nat) (steps : List Step) (k j : Nat) (s : St) :
    runCrash content steps k j s = runCrash content steps (min k steps.length) j s := by
  rcases Nat.le_total k steps.length with hk | hk
  · rw [Nat.min_eq_left hk]
  · rw [Nat.min_eq_right hk]
    simp only [runCrash]
    rw [List.take_of_length_le hk, List.take_length, List.getElem?_eq_none hk, List.getElem?_eq_none (Nat.le_refl _)]

theorem mem_true_false (b : Bool) : b ∈ [true, false] := by cases b <;> decide

theorem mem_crashPoints (steps : List Step) (k : Nat) (p : Bool) (hk : k ≤ steps.length) :
    (k, p) ∈ crashPoints steps := by
  simp only [crashPoints, List.mem_flatMap, List.mem_range]
  exact ⟨k, Nat.lt_succ_of_le hk, by cases p <;> simp⟩

theorem mem_faultPoints (steps : List Step) (k : Nat) (p : Bool) (hk : k < steps.length) :
    (k, p) ∈ faultPoints steps := by
  simp only [faultPoints, List.mem_flatMap, List.mem_range]
  exact ⟨k, hk, by cases p <;> simp⟩

theorem gFile_of_beq {x : Ctx} {a b : SFile} (h : (a == b) = true) : gFile x a = gFile x b := congrArg _ (eq_of_beq h)

theorem gFile_sInit (old : Option FileV) (content : List Nat) (j : Nat) :
    gFile ⟨old, content, j⟩ (sInit old.isSome).dest = old := by
  cases old <;> rfl

/-- **C15 (crash), for any step list that passes the decidable check.** -/
theorem crash_atomic_of_safe (steps : List Step) (mode : Nat) (h : crashSafe steps mode = true)
    (old : Option FileV) (content : List Nat) (k j : Nat) :
    (runCrash content steps k j { dest := old, tmp := none }).dest = old ∨
    (runCrash content steps k j { dest := old, tmp := none }).dest = some (content, mode) := by
  rw [runCrash_min]
  simp only [crashSafe, List.all_eq_true] at h
  have hkp := h old.isSome (mem_true_false _) (min k steps.length, true)
    (mem_crashPoints steps _ true (Nat.min_le_right _ _))
  have e : gSt _ _ = runCrash content steps (min k steps.length) j _ :=
    (sim_runCrash ⟨old, content, j⟩ steps _ (sim_sInit old content j)).1
  rw [← e]
  simp only [crashOKAt, Bool.or_eq_true] at hkp
  exact hkp.imp (fun e => (gFile_of_beq e).trans (gFile_sInit old content j))
    fun e => (gFile_of_beq e).trans (gFile_full _ mode)

/-- **C15 (a later successful run completes the installation)**, from any previous destination state (in particular one
    left by a crashed run, which uses a different temp name). -/
theorem rerun_completes_of (steps : List Step) (cl : List Cleanup) (mode : Nat)
    (h : completes steps cl mode = true) (old : Option FileV) (content : List Nat) :
    runOK content steps cl { dest := old, tmp := none } =
      { st := { dest := some (content, mode), tmp := none }, reported := false } := by
  simp only [completes, List.all_eq_true, Bool.and_eq_true] at h
  obtain ⟨hd, ht⟩ := h old.isSome (mem_true_false _)
  have e : gSt _ _ = (runOK content steps cl _).st := (sim_runOK ⟨old, content, 0⟩ steps cl (sim_sInit old content 0)).1
  show Outcome.mk (runOK content steps cl { dest := old, tmp := none }).st false = _
  rw [← e, gSt, gFile_of_beq hd, gFile_of_beq ht, gFile_full]
  rfl

/-- **C15 (single injected failure), for any step list that passes the decidable check.** -/
theorem fault_clean_of_safe (steps : List Step) (cl : List Cleanup) (h : faultSafe steps cl = true)
    (old : Option FileV) (content : List Nat) (i j : Nat) (hi : i < steps.length) :
    (runFail content steps cl i j { dest := old, tmp := none }).reported = true ∧
    (runFail content steps cl i j { dest := old, tmp := none }).st.dest = old ∧
    (runFail content steps cl i j { dest := old, tmp := none }).st.tmp = none := by
  simp only [faultSafe, List.all_eq_true] at h
  have hip := h old.isSome (mem_true_false _) (i, true) (mem_faultPoints steps i true hi)
  simp only [faultOKAt, Bool.and_eq_true] at hip
  obtain ⟨⟨hr, hd⟩, ht⟩ := hip
  have ⟨⟨e, _⟩, er⟩ := sim_runFail ⟨old, content, j⟩ steps cl i (sim_sInit old content j)
  replace e : gSt _ _ = (runFail content steps cl i j _).st := e
  refine ⟨er ▸ hr, ?_, ?_⟩
  · rw [← e]
    exact (gFile_of_beq hd).trans (gFile_sInit old content j)
  · rw [← e]
    exact gFile_of_beq ht

end Inst
