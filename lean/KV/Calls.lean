import KV.PlanStages
import KV.Signature
import KV.Refuse
/-! # C02 — every needed provider is invoked exactly once, unneeded providers never

In the emitted program (`emitted p`, fault-free semantics `T1`) the invocation of the provider of graph node `n`
is the op `T1.Op.enter n args`.  The nodes entered are exactly the provider nodes of the planned graph, each at one
position of one thread; a maximal run executes every op; a provider is entered iff it is `Needed`, through one node;
and the variable returned is the one the graph designates (what it holds: `returned_value`, KV/CallsValue.lean). -/
namespace KV

/-- **Every provider node of the planned graph is emitted, and nothing else is.** -/
theorem enter_iff_node {provs0 : List PSpec} {ret : Nat} {p : PlanOut} (h : plan provs0 ret = .ok p) (n : Nat) :
    (∃ t args, T1.Op.enter n args ∈ T1.thread (emitted p) t) ↔
      (n < p.g.nodes.length ∧ (p.g.nodes.getD n default).isArg = false) := by
  refine Iff.trans ⟨?_, ?_⟩ (plan_all h).mem_thread_iff
  · exact fun ⟨t, _, hen⟩ => ⟨t, (enter_mem_emitted.mp hen).1⟩
  · exact fun ⟨t, ht⟩ => ⟨t, _, enter_mem_emitted.mpr ⟨ht, rfl⟩⟩

/-- **The `enter` of node `n` occurs at exactly one position of exactly one thread** (and with one argument list). -/
theorem enter_once {provs0 : List PSpec} {ret : Nat} {p : PlanOut} (h : plan provs0 ret = .ok p)
    {n t j t' j' : Nat} {a a' : List Nat}
    (h1 : T1.opAt (emitted p) t j = some (.enter n a)) (h2 : T1.opAt (emitted p) t' j' = some (.enter n a')) :
    t = t' ∧ j = j' := by
  have hp := plan_all h
  -- a node is in one thread only
  obtain rfl := hp.thread_unique (enter_mem_emitted.mp (T1.opAt_mem h1)).1 (enter_mem_emitted.mp (T1.opAt_mem h2)).1
  refine ⟨rfl, ?_⟩
  -- and what follows an `enter` in its thread has a greater rank, while the two ops have the same
  have hb : (T1.thread (emitted p) t).Pairwise (T1.Before (rankOfPlan p)) :=
    T1.thread_before (planFacts_of_planOK hp.toPlanOK) t
  exact hb.eq_of_getElem? h1 h2 (fun hc => Nat.lt_irrefl _ (hc.2 ⟨n, a, Or.inl rfl⟩))
    (fun hc => Nat.lt_irrefl _ (hc.2 ⟨n, a', Or.inl rfl⟩))

theorem enter_args_unique {p : PlanOut} {n t t' : Nat} {a a' : List Nat}
    (h1 : T1.Op.enter n a ∈ T1.thread (emitted p) t) (h2 : T1.Op.enter n a' ∈ T1.thread (emitted p) t') : a = a' :=
  (enter_mem_emitted.mp h1).2.trans (enter_mem_emitted.mp h2).2.symm

/-- **A maximal fault-free run has executed every op of every thread** — in particular every emitted `enter`,
    which by `enter_once` is executed exactly once. -/
theorem run_calls_once {provs0 : List PSpec} {ret : Nat} {p : PlanOut} (h : plan provs0 ret = .ok p)
    {s : T1.Pcs} (hr : T1.Reach (emitted p) s) (hmax : ∀ t, ¬ T1.Enabled (emitted p) s t) :
    ∀ t, T1.pc s t = (T1.thread (emitted p) t).length := by
  intro t
  refine Nat.le_antisymm (T1.pc_le_length hr t) (Nat.le_of_not_lt fun hlt => ?_)
  -- a thread that is not at its end has a pending op, so some thread can move
  have hop : T1.opAt (emitted p) t (T1.pc s t) = some (T1.thread (emitted p) t)[T1.pc s t] :=
    List.getElem?_eq_getElem hlt
  obtain ⟨u, hu⟩ := T1.progress (plan_wf h).1 ⟨t, _, T1.lt_of_opAt hop, hop⟩
  exact hmax u hu

/-- the run-time reading of `enter_iff_node`, `enter_once` and `run_calls_once` together: in a final state, for every
    provider node `n` of the planned graph there is exactly one executed position holding an `enter` of `n`; argument
    nodes have none -/
theorem run_enter_exactly_once {provs0 : List PSpec} {ret : Nat} {p : PlanOut} (h : plan provs0 ret = .ok p)
    {s : T1.Pcs} (hr : T1.Reach (emitted p) s) (hmax : ∀ t, ¬ T1.Enabled (emitted p) s t) (n : Nat) :
    (n < p.g.nodes.length ∧ (p.g.nodes.getD n default).isArg = false →
      ∃ t j a, T1.opAt (emitted p) t j = some (.enter n a) ∧ j < T1.pc s t ∧
        ∀ t' j' a', T1.opAt (emitted p) t' j' = some (.enter n a') → t' = t ∧ j' = j ∧ a' = a) ∧
    (¬ (n < p.g.nodes.length ∧ (p.g.nodes.getD n default).isArg = false) →
      ∀ t j a, T1.opAt (emitted p) t j ≠ some (.enter n a)) := by
  constructor
  · intro hn
    obtain ⟨t, a, hen⟩ := (enter_iff_node h n).mpr hn
    obtain ⟨j, hj⟩ := T1.mem_opAt hen
    refine ⟨t, j, a, hj, ?_, ?_⟩
    · rw [run_calls_once h hr hmax t]; exact List.lt_length_of_getElem? hj
    · intro t' j' a' hj'
      obtain ⟨e1, e2⟩ := enter_once h hj' hj
      exact ⟨e1, e2, enter_args_unique (T1.opAt_mem hj') hen⟩
  · intro hn t j a hj
    exact hn ((enter_iff_node h n).mp ⟨t, a, T1.opAt_mem hj⟩)

/-- **One node per provider.**  Two provider nodes of the graph of an accepted declaration that carry the same
    provider are the same node: non-root nodes are memoised (`provNode`), and the root's provider cannot be
    rediscovered because that would be a dependency cycle, which `plan` refuses. -/
theorem provider_node_inj {provs0 : List PSpec} {ret : Nat} {p : PlanOut} (h : plan provs0 ret = .ok p)
    {n n' : Nat} (hn : n < p.g.nodes.length) (hn' : n' < p.g.nodes.length)
    (hna : (p.g.nodes.getD n default).isArg = false) (hna' : (p.g.nodes.getD n' default).isArg = false)
    (hpq : (p.g.nodes.getD n default).prov = (p.g.nodes.getD n' default).prov) : n = n' := by
  obtain ⟨provs, sup, hs⟩ := plan_supplierMap h
  obtain ⟨rp, ri, st, hl, hf, _, hnodes, _⟩ := plan_bfs h hs
  rw [hnodes] at hn hn' hna hna' hpq
  exact hf.node_inj (accepted_needs_acyclic h hs hl (Reach.refl rp)) hn hn' hna hna' hpq

/-- **The providers invoked are exactly the needed ones, and each through a single node.**  With the supplier map
    `(provs, sup)` of the declaration: provider index `q` has an emitted `enter` iff `q` is `Needed` for `ret`;
    and two emitted provider nodes with the same provider index are the same node. -/
theorem calls_exact {provs0 provs : List PSpec} {sup : SupMap} {ret : Nat} {p : PlanOut}
    (h : plan provs0 ret = .ok p) (hs : supplierMap provs0 = .ok (provs, sup)) :
    (∀ q, (∃ n t args, T1.Op.enter n args ∈ T1.thread (emitted p) t ∧ (p.g.nodes.getD n default).isArg = false ∧
        (p.g.nodes.getD n default).prov = q) ↔ Needed provs sup ret q) ∧
    (∀ n n' t t' args args', T1.Op.enter n args ∈ T1.thread (emitted p) t →
      T1.Op.enter n' args' ∈ T1.thread (emitted p) t' →
      (p.g.nodes.getD n default).prov = (p.g.nodes.getD n' default).prov → n = n') := by
  have hneed := (plan_spec h hs).provNodes
  constructor
  · intro q
    rw [← hneed q]
    constructor
    · rintro ⟨n, t, args, hen, hna, hpq⟩
      exact ⟨n, ((enter_iff_node h n).mp ⟨t, args, hen⟩).1, hna, hpq⟩
    · rintro ⟨n, hn, hna, hpq⟩
      obtain ⟨t, args, hen⟩ := (enter_iff_node h n).mpr ⟨hn, hna⟩
      exact ⟨n, t, args, hen, hna, hpq⟩
  · intro n n' t t' args args' hen hen' hpq
    obtain ⟨hn, hna⟩ := (enter_iff_node h n).mp ⟨t, args, hen⟩
    obtain ⟨hn', hna'⟩ := (enter_iff_node h n').mp ⟨t', args', hen'⟩
    exact provider_node_inj h hn hn' hna hna' hpq

/-- **A needed provider has exactly one `enter`; an unneeded provider has none.** -/
theorem needed_called_once {provs0 provs : List PSpec} {sup : SupMap} {ret : Nat} {p : PlanOut}
    (h : plan provs0 ret = .ok p) (hs : supplierMap provs0 = .ok (provs, sup)) (q : Nat) :
    (Needed provs sup ret q →
      ∃ n t j a, T1.opAt (emitted p) t j = some (.enter n a) ∧ (p.g.nodes.getD n default).prov = q ∧
        ∀ n' t' j' a', T1.opAt (emitted p) t' j' = some (.enter n' a') → (p.g.nodes.getD n' default).prov = q →
          n' = n ∧ t' = t ∧ j' = j ∧ a' = a) ∧
    (¬ Needed provs sup ret q →
      ∀ n t j a, T1.opAt (emitted p) t j = some (.enter n a) → (p.g.nodes.getD n default).prov ≠ q) := by
  obtain ⟨hex, hinj⟩ := calls_exact h hs
  constructor
  · intro hq
    obtain ⟨n, t, a, hen, _, hpq⟩ := (hex q).mpr hq
    obtain ⟨j, hj⟩ := T1.mem_opAt hen
    refine ⟨n, t, j, a, hj, hpq, ?_⟩
    intro n' t' j' a' hj' hpq'
    have hnn : n' = n := hinj n' n t' t a' a (T1.opAt_mem hj') hen (by rw [hpq, hpq'])
    subst hnn
    obtain ⟨e1, e2⟩ := enter_once h hj' hj
    exact ⟨rfl, e1, e2, enter_args_unique (T1.opAt_mem hj') hen⟩
  · intro hnq n t j a hj hpq
    apply hnq
    have hen := T1.opAt_mem hj
    exact (hex q).mp ⟨n, t, a, hen, ((enter_iff_node h n).mp ⟨t, a, hen⟩).2, hpq⟩

/-- **The returned variable is the one the graph designates**: the return node is a provider node of the graph and
    `p.b.retParam` is its result variable number `p.g.retIdx` — the (node, group) pair `GraphVal` reads. -/
theorem ret_var_wired {provs0 : List PSpec} {ret : Nat} {p : PlanOut} (h : plan provs0 ret = .ok p) :
    p.g.retNode < p.g.nodes.length ∧ (p.g.nodes.getD p.g.retNode default).isArg = false ∧
    (p.b.nodeRets.getD p.g.retNode [])[p.g.retIdx]? = some p.b.retParam := by
  have hp := plan_all h
  obtain ⟨provs, sup, hs⟩ := plan_supplierMap h
  obtain ⟨rp, ri, st, hl, hf, _, hnodes, _, hprovs, hretI⟩ := plan_bfs h hs
  -- the return node is the root of the BFS, a node of the provider `rp` supplying `ret` as its result `ri`
  have hroot : p.g.nodes.getD p.g.retNode default = { isArg := false, prov := rp } := by
    rw [hp.ret0, hnodes]; exact hf.root.2
  have hna : (p.g.nodes.getD p.g.retNode default).isArg = false := by rw [hroot]
  have hri : p.g.retIdx < (p.b.nodeRets.getD p.g.retNode []).length := by
    rw [hp.rets_length hp.retIn, outCount, isArgNode, hna, if_neg Bool.false_ne_true, hroot, hprovs, hretI]
    exact supplierMap_supOK hs ret rp ri hl
  refine ⟨hp.order_lt _ hp.retIn, hna, ?_⟩
  rw [List.getElem?_eq_some_getD 0 hri, hp.retParam, retParamOf, hna, if_neg Bool.false_ne_true, hp.nodeRets]

/-- **The run-time result.**  In every maximal fault-free run of the program emitted for an accepted declaration:
    the main thread's last op is `ret p.b.retParam` and it has been executed; the return node's `exit`, which
    writes the node's result variables, has been executed, and `p.b.retParam` is its result number `p.g.retIdx`;
    so the returned variable has been written (it is not a parameter). -/
theorem run_returns {provs0 : List PSpec} {ret : Nat} {p : PlanOut} (h : plan provs0 ret = .ok p)
    {s : T1.Pcs} (hr : T1.Reach (emitted p) s) (hmax : ∀ t, ¬ T1.Enabled (emitted p) s t) :
    (T1.thread (emitted p) 0).getLast? = some (.ret p.b.retParam) ∧
    0 < T1.pc s 0 ∧ T1.opAt (emitted p) 0 (T1.pc s 0 - 1) = some (.ret p.b.retParam) ∧
    (∃ t j, T1.opAt (emitted p) t j = some (.exit p.g.retNode (p.b.nodeRets.getD p.g.retNode [])) ∧ j < T1.pc s t) ∧
    (p.b.nodeRets.getD p.g.retNode [])[p.g.retIdx]? = some p.b.retParam ∧
    T1.written (emitted p) s p.b.retParam ∧ ¬ isParamOf p.b p.b.retParam := by
  have hp := plan_all h
  have hfin := run_calls_once h hr hmax
  have hlast := main_thread_last p
  obtain ⟨hrl, hrna, hrv⟩ := ret_var_wired h
  have hvmem : p.b.retParam ∈ p.b.nodeRets.getD p.g.retNode [] := List.mem_of_getElem? hrv
  -- the return node's exit
  obtain ⟨t, hnd⟩ := hp.mem_thread_iff.mpr ⟨hrl, hrna⟩
  obtain ⟨j, hj⟩ := T1.mem_opAt (exit_mem_emitted.mpr ⟨hnd, rfl⟩)
  have hjl : j < T1.pc s t := by rw [hfin t]; exact List.lt_length_of_getElem? hj
  have hlen0 : 0 < (T1.thread (emitted p) 0).length := List.length_pos_of_mem (List.mem_of_getLast? hlast)
  refine ⟨hlast, by rw [hfin 0]; exact hlen0, ?_, ⟨t, j, hj, hjl⟩, hrv, ⟨t, j, _, _, hj, hvmem, hjl⟩,
    exit_not_param h (T1.opAt_mem hj) hvmem⟩
  rw [hfin 0, T1.opAt, ← List.getLast?_eq_getElem?]; exact hlast

/-- the node ids of the `enter` ops of a program, thread by thread -/
def entersOf (P : T1.Prog) : List Nat :=
  P.threads.flatMap (fun th => th.filterMap (fun op => match op with | .enter o _ => some o | _ => none))

/-- the provider indices entered by the program emitted for a declaration -/
def enteredProvs (provs0 : List PSpec) (ret : Nat) : Option (List Nat) :=
  match plan provs0 ret with
  | .ok p => some ((entersOf (emitted p)).map (fun n => (p.g.nodes.getD n default).prov))
  | .error _ => none

/-- `exDecl` (KV/Signature.lean): asking for type 1 invokes provider 0 once and never provider 1 … -/
example : enteredProvs exDecl 1 = some [0] := by decide +kernel
/-- … and asking for type 3 invokes provider 1 once and never provider 0 -/
example : enteredProvs exDecl 3 = some [1] := by decide +kernel

/-- a diamond with two Async providers and an unneeded provider (4): type 1 needs providers 0,1,2,3 -/
def diamondA : List PSpec :=
  [ { provides := [[1]], requires := [2, 3] }, { provides := [[2]], requires := [4], isAsync := true },
    { provides := [[3]], requires := [4], isAsync := true }, { provides := [[4]], requires := [9] },
    { provides := [[5]], requires := [1] } ]

/-- two threads; every needed provider is entered once (3 and 1 in the main thread, 2 and 0 in the goroutine),
    the unneeded provider 4 never -/
example : enteredProvs diamondA 1 = some [3, 1, 2, 0] := by decide +kernel

/-- the hypotheses of the theorems are met by these declarations -/
example : ∃ p, plan diamondA 1 = .ok p := RefuseExamples.exists_ok_of_isOk (by decide +kernel)
example : (match plan diamondA 1 with | .ok p => (emitted p).threads.length | .error _ => 0) = 2 := by decide +kernel

end KV
#print axioms KV.enter_iff_node
#print axioms KV.enter_once
#print axioms KV.run_calls_once
#print axioms KV.run_enter_exactly_once
#print axioms KV.calls_exact
#print axioms KV.needed_called_once
#print axioms KV.ret_var_wired
#print axioms KV.run_returns
