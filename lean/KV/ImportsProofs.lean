import KV.Imports
import KV.ListLemmas
import KV.StringLemmas
/-! Proofs for C14: totality of `findAlias`/`addImport`, whole-history facts about `AddImport`
    (alias consistency, keys distinct), order independence of the sorted import specs, and the
    duplicate-set check of `mergeResults`. -/
namespace Imp

/-! ### one call of `addImport` -/

theorem findAlias_unused (used : List (String × Nat)) (base : String) (fuel c k : Nat) (n : String)
    (h : findAlias used base fuel c = some (k, n)) : used.lookup n = none := by
  induction fuel generalizing c with
  | zero => simp [findAlias] at h
  | succ f ih =>
    simp only [findAlias] at h
    split at h
    · rename_i hn
      cases h; exact hn
    · exact ih (c + 1) h

/-- the step for either half of `Inv` (and of its variant with reserved names, `InvR` in `KV/Reserved.lean`): each
    says of every entry (that some condition selects) of one table that its mirror is in the other -/
theorem mirror_cons {α β} [BEq α] [LawfulBEq α] [BEq β] [LawfulBEq β] {l : List (α × β)} {r : List (β × α)}
    {b₀ : β} (hb : r.lookup b₀ = none) (a₀ : α) {a : α} {b : β} (hl : ((a₀, b₀) :: l).lookup a = some b)
    (h : l.lookup a = some b → r.lookup b = some a) : ((b₀, a₀) :: r).lookup b = some a := by
  rcases List.lookup_cons_eq_some.1 hl with ⟨rfl, rfl⟩ | ⟨_, hl⟩
  · exact List.lookup_cons_self
  · exact List.lookup_cons_of_absent hb (h hl)

theorem addImport_cases {tc tc' : TC} {p : Nat} {d n : String} (ha : addImport tc p d = some (tc', n)) :
    (tc' = tc ∧ tc.imports.lookup p = some n) ∨
    (tc.imports.lookup p = none ∧ tc.used.lookup n = none ∧
      tc'.imports = (p, n) :: tc.imports ∧ tc'.used = (n, p) :: tc.used) := by
  unfold addImport at ha
  split at ha
  · rename_i m hm
    cases ha; exact Or.inl ⟨rfl, hm⟩
  · rename_i hnone
    split at ha
    · split at ha
      · cases ha
      · rename_i k m hf
        cases ha
        exact Or.inr ⟨hnone, findAlias_unused _ _ _ _ _ _ hf, rfl, rfl⟩
    · rename_i hdes
      cases ha
      exact Or.inr ⟨hnone, hdes, rfl, rfl⟩

theorem addImport_lookup {tc tc' : TC} {p : Nat} {d n : String} (ha : addImport tc p d = some (tc', n)) :
    tc'.imports.lookup p = some n := by
  rcases addImport_cases ha with ⟨rfl, hl⟩ | ⟨_, _, hi, _⟩
  · exact hl
  · rw [hi]; exact List.lookup_cons_self

theorem addImport_new {tc tc' : TC} {p : Nat} {d n : String} (ha : addImport tc p d = some (tc', n)) :
    ∀ p' n', tc'.imports.lookup p' = some n' → tc.imports.lookup p' = some n' ∨ n' = n := by
  rcases addImport_cases ha with ⟨rfl, _⟩ | ⟨_, _, hi, _⟩
  · exact fun _ _ h => Or.inl h
  · intro p' n' hl
    rw [hi] at hl
    exact (List.lookup_cons_eq_some.1 hl).elim (fun h => Or.inr h.2.symm) (fun h => Or.inl h.2)

/-- what any number of calls may do to the tables -/
structure Ext (tc tc' : TC) : Prop where
  imports : ∀ p n, tc.imports.lookup p = some n → tc'.imports.lookup p = some n
  used : ∀ q p, tc.used.lookup q = some p → tc'.used.lookup q = some p
  fresh : ∀ p n, tc'.imports.lookup p = some n → tc.imports.lookup p = some n ∨ tc.used.lookup n = none

theorem Ext.refl (tc : TC) : Ext tc tc := ⟨fun _ _ h => h, fun _ _ h => h, fun _ _ h => Or.inl h⟩

theorem Ext.unused {a b : TC} (h : Ext a b) {n : String} (hu : b.used.lookup n = none) : a.used.lookup n = none := by
  cases hq : a.used.lookup n with
  | none => rfl
  | some r => rw [h.used n r hq] at hu; cases hu

theorem Ext.trans {a b c : TC} (h1 : Ext a b) (h2 : Ext b c) : Ext a c :=
  ⟨fun p n h => h2.imports p n (h1.imports p n h), fun q p h => h2.used q p (h1.used q p h),
   fun p n h => (h2.fresh p n h).elim (h1.fresh p n) (fun hu => Or.inr (h1.unused hu))⟩

theorem addImport_ext {tc tc' : TC} {p : Nat} {d n : String} (ha : addImport tc p d = some (tc', n)) : Ext tc tc' := by
  rcases addImport_cases ha with ⟨rfl, _⟩ | ⟨hp, hn, hi, hu⟩
  · exact Ext.refl _
  · refine ⟨fun p' n' h => ?_, fun q r h => ?_, fun p' n' h => ?_⟩
    · rw [hi]; exact List.lookup_cons_of_absent hp h
    · rw [hu]; exact List.lookup_cons_of_absent hn h
    · rw [hi] at h
      rcases List.lookup_cons_eq_some.1 h with ⟨_, rfl⟩ | ⟨_, h⟩
      · exact Or.inr hn
      · exact Or.inl h

/-- the half of `Inv` that reading a qualifier back needs (`InvR` has the same half) -/
def Inv1 (tc : TC) : Prop := ∀ p n, tc.imports.lookup p = some n → tc.used.lookup n = some p

theorem Inv1.injective {tc : TC} (h : Inv1 tc) {p q : Nat} {n : String}
    (hp : tc.imports.lookup p = some n) (hq : tc.imports.lookup q = some n) : p = q :=
  Option.some.inj ((h p n hp).symm.trans (h q n hq))

theorem addImport_inv1 {tc tc' : TC} {p : Nat} {d n : String} (h : Inv1 tc)
    (ha : addImport tc p d = some (tc', n)) : Inv1 tc' := by
  rcases addImport_cases ha with ⟨rfl, _⟩ | ⟨_, hn, hi, hu⟩
  · exact h
  · unfold Inv1; rw [hi, hu]
    exact fun a b hl => mirror_cons hn p hl (h a b)

theorem addImport_inv {tc tc' : TC} {p : Nat} {d n : String} (h : Inv tc)
    (ha : addImport tc p d = some (tc', n)) : Inv tc' := by
  refine ⟨addImport_inv1 h.1 ha, ?_⟩
  rcases addImport_cases ha with ⟨rfl, _⟩ | ⟨hp, _, hi, hu⟩
  · exact h.2
  · rw [hi, hu]
    exact fun a b hl => mirror_cons hp n hl (h.2 a b)

/-- **C14, alias consistency**: whatever the sequence of `AddImport` calls, two different package
    paths never get the same local name. -/
theorem alias_injective {tc : TC} (h : Inv tc) {p q : Nat} {n : String}
    (hp : tc.imports.lookup p = some n) (hq : tc.imports.lookup q = some n) : p = q :=
  Inv1.injective h.1 hp hq

/-! ### totality of `findAlias` (pigeonhole over the keys of `used`) -/

theorem findAlias_total (used : List (String × Nat)) (base : String) (c : Nat) :
    findAlias used base (used.length + 1) c ≠ none := by
  have := List.search_ne_none (f := findAlias used base) (name := fun c => alias base (c + 1))
    (keys := used.map (·.1)) (fun _ _ e => Nat.succ.inj (String.append_toString_inj (base ++ "_") e)) ?_ c
  · rwa [List.length_map] at this
  · intro k c h
    simp only [findAlias] at h
    split at h
    · cases h
    · rename_i hv
      refine ⟨Classical.not_not.mp fun hn => ?_, h⟩
      rw [List.lookup_eq_none_iff_not_mem_keys.mpr hn] at hv
      cases hv

theorem addImport_total (tc : TC) (path : Nat) (desired : String) : addImport tc path desired ≠ none := by
  unfold addImport
  split
  · simp
  · split
    · split
      · rename_i hf
        exact absurd hf (findAlias_total _ _ _)
      · simp
    · simp

/-! ### a history of calls -/

theorem runImports_cons (tc : TC) (p : Nat) (d : String) (rest : List (Nat × String)) :
    runImports tc ((p, d) :: rest) =
      (addImport tc p d).bind fun r => (runImports r.1 rest).map fun s => (s.1, r.2 :: s.2) := by
  rw [runImports]
  rcases addImport tc p d with _ | ⟨tc1, n⟩
  · rfl
  · dsimp only [Option.bind_some]; cases runImports tc1 rest <;> rfl

theorem runImports_total (tc : TC) (ops : List (Nat × String)) : runImports tc ops ≠ none := by
  induction ops generalizing tc with
  | nil => exact Option.some_ne_none _
  | cons op rest ih =>
    obtain ⟨r, hr⟩ := Option.ne_none_iff_exists'.1 (addImport_total tc op.1 op.2)
    obtain ⟨s, hs⟩ := Option.ne_none_iff_exists'.1 (ih r.1)
    rw [runImports_cons, hr, Option.bind_some, hs]
    exact Option.some_ne_none _

theorem inv_empty : Inv TC.empty := by
  constructor <;> intro a b h <;> simp [TC.empty] at h

theorem runImports_induct {P : TC → List (Nat × String) → TC → List String → Prop} (nil : ∀ tc, P tc [] tc [])
    (cons : ∀ {tc tc1 tc' p d n rest ns}, addImport tc p d = some (tc1, n) → runImports tc1 rest = some (tc', ns) →
      P tc1 rest tc' ns → P tc ((p, d) :: rest) tc' (n :: ns))
    {tc tc' : TC} {ops : List (Nat × String)} {ns : List String} (hr : runImports tc ops = some (tc', ns)) :
    P tc ops tc' ns := by
  induction ops generalizing tc ns with
  | nil => cases hr; exact nil _
  | cons op rest ih =>
    rw [runImports_cons] at hr
    obtain ⟨⟨tc1, n⟩, ha, hr⟩ := Option.bind_eq_some_iff.1 hr
    obtain ⟨⟨tc2, ns'⟩, hr', hr⟩ := Option.map_eq_some_iff.1 hr
    cases hr
    exact cons ha hr' (ih hr')

theorem runImports_rel {R : TC → TC → Prop} (refl : ∀ a, R a a) (trans : ∀ {a b c}, R a b → R b c → R a c)
    (step : ∀ {tc tc' p d n}, addImport tc p d = some (tc', n) → R tc tc')
    {tc tc' : TC} {ops : List (Nat × String)} {ns : List String} (hr : runImports tc ops = some (tc', ns)) : R tc tc' :=
  runImports_induct (P := fun tc _ tc' _ => R tc tc') refl (fun ha _ ih => trans (step ha) ih) hr

theorem runImports_inv {tc tc' : TC} {ops : List (Nat × String)} {ns : List String} (h : Inv tc)
    (hr : runImports tc ops = some (tc', ns)) : Inv tc' :=
  runImports_rel (R := fun a b => Inv a → Inv b) (fun _ h => h) (fun f g h => g (f h)) (fun ha h => addImport_inv h ha) hr h

theorem runImports_ext {tc tc' : TC} {ops : List (Nat × String)} {ns : List String}
    (hr : runImports tc ops = some (tc', ns)) : Ext tc tc' :=
  runImports_rel Ext.refl Ext.trans addImport_ext hr

theorem runImports_keeps {tc tc' : TC} {ops : List (Nat × String)} {ns : List String} {q : Nat} {m : String}
    (hr : runImports tc ops = some (tc', ns)) (hq : tc.imports.lookup q = some m) :
    tc'.imports.lookup q = some m :=
  (runImports_ext hr).imports q m hq

theorem runImports_length {tc tc' : TC} {ops : List (Nat × String)} {ns : List String}
    (hr : runImports tc ops = some (tc', ns)) : ns.length = ops.length :=
  runImports_induct (P := fun _ ops _ ns => ns.length = ops.length) (fun _ => rfl) (fun _ _ ih => congrArg (· + 1) ih) hr

theorem runImports_names {tc tc' : TC} {ops : List (Nat × String)} {ns : List String}
    (hr : runImports tc ops = some (tc', ns)) :
    ∀ i (hi : i < ops.length) (hi' : i < ns.length), tc'.imports.lookup (ops[i]).1 = some ns[i] := by
  refine runImports_induct (P := fun _ ops tc' ns => ∀ i (hi : i < ops.length) (hi' : i < ns.length),
    tc'.imports.lookup (ops[i]).1 = some ns[i]) (fun _ i hi => absurd hi (Nat.not_lt_zero _)) ?_ hr
  intro tc tc1 tc' p d n rest ns ha hr' ih i hi hi'
  cases i with
  | zero => exact runImports_keeps hr' (addImport_lookup ha)
  | succ j => exact ih j (Nat.lt_of_succ_lt_succ hi) (Nat.lt_of_succ_lt_succ hi')

/-- alias consistency (C14) over a whole history, from any state with inverse tables -/
theorem alias_consistent_from {tc tc' : TC} {ops : List (Nat × String)} {ns : List String} (h : Inv tc)
    (hr : runImports tc ops = some (tc', ns)) (i j : Nat)
    (hi : i < ops.length) (hj : j < ops.length) (hi' : i < ns.length) (hj' : j < ns.length) :
    (ops[i]).1 = (ops[j]).1 ↔ ns[i] = ns[j] := by
  have h1 := runImports_names hr i hi hi'
  have h2 := runImports_names hr j hj hj'
  constructor
  · intro e
    rw [e, h2] at h1
    exact (Option.some.inj h1).symm
  · intro e
    rw [e] at h1
    exact alias_injective (runImports_inv h hr) h1 h2

/-! ### each path is imported once -/

theorem addImport_keysNodup {tc tc' : TC} {p : Nat} {d n : String} (h : KeysNodup tc)
    (ha : addImport tc p d = some (tc', n)) : KeysNodup tc' := by
  rcases addImport_cases ha with ⟨rfl, _⟩ | ⟨hp, _, hi, _⟩
  · exact h
  · unfold KeysNodup
    rw [hi, List.map_cons, List.nodup_cons]
    exact ⟨List.lookup_eq_none_iff_not_mem_keys.1 hp, h⟩

theorem keysNodup_empty : KeysNodup TC.empty := List.nodup_nil

theorem runImports_keysNodup {tc tc' : TC} {ops : List (Nat × String)} {ns : List String} (h : KeysNodup tc)
    (hr : runImports tc ops = some (tc', ns)) : KeysNodup tc' :=
  runImports_rel (R := fun a b => KeysNodup a → KeysNodup b) (fun _ h => h) (fun f g h => g (f h))
    (fun ha h => addImport_keysNodup h ha) hr h

theorem importSpecs_keys (lastElem : Nat → String) (tc : TC) :
    (importSpecs lastElem tc).map (·.1) = tc.imports.map (·.1) := by
  rw [importSpecs, List.map_map]; rfl

theorem importSpecs_nodup (lastElem : Nat → String) {tc : TC} (h : KeysNodup tc) :
    ((importSpecs lastElem tc).map (·.1)).Nodup := by
  rw [importSpecs_keys]; exact h

/-! ### the sorted specs do not depend on the map iteration order -/

theorem sortedSpecs_perm (l : List (Nat × Option String)) : (sortedSpecs l).Perm l :=
  List.mergeSort_perm _ _

theorem sortedSpecs_sorted (l : List (Nat × Option String)) :
    (sortedSpecs l).Pairwise (fun a b => a.1 ≤ b.1) := by
  have := List.pairwise_mergeSort (le := fun (a b : Nat × Option String) => decide (a.1 ≤ b.1))
    (fun a b c hab hbc => by
      simp only [decide_eq_true_eq] at hab hbc ⊢; omega)
    (fun a b => by
      simp only [Bool.or_eq_true, decide_eq_true_eq]; omega) l
  exact this.imp (fun h => by simpa using h)

theorem specs_order_independent {l₁ l₂ : List (Nat × Option String)} (hp : l₁.Perm l₂)
    (hnd : (l₁.map (·.1)).Nodup) : sortedSpecs l₁ = sortedSpecs l₂ := by
  apply List.Perm.eq_of_pairwise (le := fun a b => a.1 ≤ b.1) _ (sortedSpecs_sorted l₁) (sortedSpecs_sorted l₂)
  · exact (sortedSpecs_perm l₁).trans (hp.trans (sortedSpecs_perm l₂).symm)
  · intro a b ha hb hab hba
    have ha' : a ∈ l₁ := (sortedSpecs_perm l₁).mem_iff.mp ha
    have hb' : b ∈ l₁ := hp.mem_iff.mpr ((sortedSpecs_perm l₂).mem_iff.mp hb)
    exact List.eq_of_nodup_map (·.1) l₁ hnd ha' hb' (by omega)

/-! ### the duplicate-set check -/

theorem foldl_addName_error (f : List String) (e : String) : f.foldl addName (.error e) = .error e := by
  induction f with
  | nil => rfl
  | cons n rest ih => simp only [List.foldl_cons, addName]; exact ih

theorem foldl_addName_ok (f acc a : List String) (h : f.foldl addName (.ok acc) = .ok a) :
    a = acc ++ f ∧ (acc.Nodup → a.Nodup) := by
  induction f generalizing acc with
  | nil =>
    simp only [List.foldl_nil, Except.ok.injEq] at h
    subst h; simp
  | cons n rest ih =>
    simp only [List.foldl_cons, addName] at h
    split at h
    · rw [foldl_addName_error] at h; cases h
    · rename_i hc
      obtain ⟨e, hn⟩ := ih _ h
      exact ⟨by rw [e, List.append_assoc]; rfl,
        fun hacc => hn (List.nodup_concat.2 ⟨hacc, fun hm => hc (List.contains_iff_mem.mpr hm)⟩)⟩

theorem foldl_addName_err (f acc : List String) (n : String) (h : f.foldl addName (.ok acc) = .error n) :
    2 ≤ (acc ++ f).count n := by
  induction f generalizing acc with
  | nil => simp only [List.foldl_nil] at h; cases h
  | cons m rest ih =>
    simp only [List.foldl_cons, addName] at h
    split at h
    · rename_i hc
      rw [foldl_addName_error] at h
      have e : m = n := Except.error.inj h
      subst e
      have hm : m ∈ acc := List.contains_iff_mem.mp hc
      have : 1 ≤ acc.count m := List.one_le_count_iff.mpr hm
      rw [List.count_append, List.count_cons_self]
      omega
    · have := ih _ h
      rw [List.append_assoc] at this
      exact this

theorem mergeSets_eq_foldl (files : List (List String)) (acc : List String) :
    mergeSets files acc = files.flatten.foldl addName (.ok acc) := by
  induction files generalizing acc with
  | nil => rfl
  | cons f fs ih =>
    rw [List.flatten_cons, List.foldl_append, mergeSets]
    cases f.foldl addName (.ok acc) with
    | error e => rw [foldl_addName_error]
    | ok a => exact ih a

theorem mergeSets_ok {files : List (List String)} {out : List String} (h : mergeSets files [] = .ok out) :
    out = files.flatten ∧ out.Nodup := by
  rw [mergeSets_eq_foldl] at h
  obtain ⟨e, hn⟩ := foldl_addName_ok _ [] out h
  exact ⟨by simpa using e, hn List.nodup_nil⟩

theorem mergeSets_error_count {files : List (List String)} {n : String} (h : mergeSets files [] = .error n) :
    2 ≤ files.flatten.count n := by
  rw [mergeSets_eq_foldl] at h
  simpa using foldl_addName_err _ [] n h

theorem mergeSets_error {files : List (List String)} {n : String} (h : mergeSets files [] = .error n) :
    ¬ files.flatten.Nodup := by
  intro hnd
  have := List.nodup_iff_count.mp hnd n
  have := mergeSets_error_count h
  omega

theorem mergeSets_complete {files : List (List String)} (h : files.flatten.Nodup) :
    ∃ out, mergeSets files [] = .ok out := by
  cases hm : mergeSets files [] with
  | ok out => exact ⟨out, rfl⟩
  | error n => exact absurd h (mergeSets_error hm)

end Imp
