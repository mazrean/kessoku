import KV.SupProof
import KV.Final
import KV.BfsProof
import KV.Suppliers
/-! The three stages together.  The graph `NewGraph` returns has the well-formedness `Build` relies on (`GWF2`): it is
    read off a drained BFS state that satisfies `BInv`, or it is the single argument node of an unsupplied requested
    type.  `PlanOK` gives the data-flow hypotheses of Tier 1 (`T1.PlanData`), hence Tier 2 for the three stages and
    for `KV.plan`: no deadlock, ordering and race freedom of the emitted program. -/
namespace KV

theorem gwf2_of_binv {provs : List PSpec} {st : BfsSt} (h : BInv provs st none) (hq : st.queue = []) (ri : Nat) :
    GWF2 { provs := provs, nodes := st.nodes, edges := st.edges, rev := st.rev, retNode := 0, retIdx := ri } where
  slotLt := fun n e he => List.lt_length_of_getElem? (h.edgeOK n e he).2.2.1
  dstLt := fun _ _ he => h.dst_lt he
  revLen := h.lenR
  slotsEq := by
    intro m hm
    show nodeSlots _ m = (st.rev.getD m []).length
    rw [h.rev_length_of_drained hq hm, nodeSlots, slotsOfNode, List.getElem?_eq_getElem hm, List.getD_eq_getElem _ hm]
  edgeUnique := h.uniq
  srcLt := fun n e he _ => (h.edgeOK n e he).2.2.2
  revEdge := h.revOK

theorem gwf2_single_arg (provs : List PSpec) (ret : Nat) :
    GWF2 { provs := provs, nodes := [{ isArg := true, ty := ret }], edges := [[]], rev := [[]], retNode := 0, retIdx := 0 } := by
  have hE : ∀ n (e : Edge), e ∉ ([[]] : List (List Edge)).getD n [] := fun n e he => by
    rw [List.getD_singleton_default] at he; cases he
  exact {
    slotLt := fun n e he => absurd he (hE n e)
    dstLt := fun n e he => absurd he (hE n e)
    revLen := rfl
    slotsEq := fun m hm => by rw [Nat.lt_one_iff.mp hm]; rfl
    edgeUnique := fun n _ e _ he => absurd he (hE n e)
    srcLt := fun n e he => absurd he (hE n e)
    revEdge := fun m i d hr => by
      rw [show (Graph.rev _).getD m [] = [] from List.getD_singleton_default [] m] at hr; cases hr }

theorem graphOf_gwf {provs : List PSpec} {sup : SupMap} (hsup : SupOK provs sup) {ret : Nat} {g : Graph}
    (hg : graphOf provs sup ret = .ok g) : GWF2 g := by
  rcases graphOf_ok hg with ⟨_, rfl⟩ | ⟨rp, ri, st, _, rfl, hq, _, rfl⟩
  · exact gwf2_single_arg provs ret
  · exact gwf2_of_binv (bfsLoop_inv hsup _ (bfsInit_inv provs rp)) hq ri

theorem newGraph2_graphOf {provs0 : List PSpec} {ret : Nat} {g : Graph} (h : newGraph2 provs0 ret = .ok g) :
    ∃ provs sup, SupOK provs sup ∧ graphOf provs sup ret = .ok g := by
  obtain ⟨provs, sup, hs, hg⟩ := supplierMap_of_newGraph2 h
  exact ⟨provs, sup, supplierMap_supOK hs, hg⟩

theorem newGraph2_gwf {provs0 : List PSpec} {ret : Nat} {g : Graph} (h : newGraph2 provs0 ret = .ok g) : GWF2 g := by
  obtain ⟨provs, sup, hsup, hg⟩ := newGraph2_graphOf h
  exact graphOf_gwf hsup hg

def isParamOf (b : BuildOut) (v : Nat) : Prop := (b.params.getD v default).isArg = true

theorem planData_of_planOK {g : Graph} {b : BuildOut} {parent : List Nat} {chains : List (List Nat)}
    (hp : PlanOK g b parent chains) :
    T1.PlanData (parent.map (nodeInfo b)) (chains.map (·.map (nodeInfo b))) (posOf (topoOrder g)) (isParamOf b) := by
  refine { writer := ?writer, reads := ?reads }
  case writer =>
    intro t t' nd nd' v bb bb' h1 h2 hr hr'
    obtain ⟨n, hn, rfl⟩ := mem_threadNodes.mp h1
    obtain ⟨n', hn', rfl⟩ := mem_threadNodes.mp h2
    -- the parameter record of `v` names the node that returns it, and a node is in one thread only
    have hnode {n c} (h : (v, c) ∈ (nodeInfo b n).rets) : (b.params.getD v default).node = n :=
      (hp.rets_param (nodeInfo_rets_fst b n ▸ List.mem_map_of_mem (f := (·.1)) h)).2.1
    obtain rfl : n = n' := (hnode hr).symm.trans (hnode hr')
    exact ⟨hp.thread_unique hn hn', rfl⟩
  case reads =>
    intro t nd hndt v w hvw hnp
    obtain ⟨m, hm, rfl⟩ := mem_threadNodes.mp hndt
    obtain ⟨a, ha, hav⟩ := List.mem_map.mp hvw
    obtain ⟨rfl, rfl⟩ := Prod.mk.inj hav
    obtain ⟨t', n, ht', hpos, hsrc, hwait, hchan⟩ := hp.arg_producer hm ha (Bool.eq_false_iff.mpr hnp)
    -- the flag `nodeInfo` emits is `isWait && withChan`: both hold when the producer runs in another thread
    exact ⟨t', nodeInfo b n, _, mem_threadNodes.mpr ⟨n, ht', rfl⟩, List.mem_map.mpr ⟨a.param, hsrc, rfl⟩, hpos,
      (Decidable.em (t' = t)).imp_right fun hne => ⟨by rw [hchan hne, hwait.mpr hne]; rfl, hchan hne⟩⟩

/-- **Tier 2 from `PlanOK`**: the emitted program is well-formed (rank-sorted threads, every wait has a closer of
    smaller rank, spawn/join structure) and data-flow well-formed, with the Kahn position of the owning node as
    rank. -/
theorem PlanOK.wf {g : Graph} {b : BuildOut} {parent : List Nat} {chains : List (List Nat)}
    (hok : PlanOK g b parent chains) :
    T1.WF (emitPlan b parent chains) (T1.rankOf (posOf (topoOrder g)) (topoOrder g).length) ∧
    T1.WFData (emitPlan b parent chains) (T1.rankOf (posOf (topoOrder g)) (topoOrder g).length) (isParamOf b) :=
  ⟨T1.emit_wf (planFacts_of_planOK hok), T1.emit_wfdata (planFacts_of_planOK hok) (planData_of_planOK hok)⟩

theorem stages_wf {g : Graph} {b : BuildOut} {parent : List Nat} {chains : List (List Nat)}
    (hg : GWF2 g) (hb : build2 g = .ok b) (hs : buildStmts2 g b.pools = .ok (parent, chains)) :
    T1.WF (emitPlan b parent chains) (T1.rankOf (posOf (topoOrder g)) (topoOrder g).length) ∧
    T1.WFData (emitPlan b parent chains) (T1.rankOf (posOf (topoOrder g)) (topoOrder g).length) (isParamOf b) :=
  (stages_planOK hg hb hs).wf

/-- **Top-level theorem.** For every declaration accepted by the model of the planner
    (`newGraph2`, `build2`, `buildStmts2` all succeed), the emitted program can always make a step while any
    thread still has an operation to execute: no schedule deadlocks. -/
theorem kessoku_no_deadlock {provs0 : List PSpec} {ret : Nat} {g : Graph} {b : BuildOut}
    {parent : List Nat} {chains : List (List Nat)}
    (hg : newGraph2 provs0 ret = .ok g) (hb : build2 g = .ok b)
    (hs : buildStmts2 g b.pools = .ok (parent, chains))
    (s : T1.Pcs) (hpend : ∃ t op, T1.Pending (emitPlan b parent chains) s t op) :
    ∃ t, T1.Enabled (emitPlan b parent chains) s t :=
  T1.progress (stages_wf (newGraph2_gwf hg) hb hs).1 hpend

/-- **C01, ordering**: in every reachable state of the program emitted for an accepted declaration,
    a provider about to be entered has all its non-parameter inputs already written by their producers. -/
theorem kessoku_enter_after_writes {provs0 : List PSpec} {ret : Nat} {g : Graph} {b : BuildOut}
    {parent : List Nat} {chains : List (List Nat)}
    (hg : newGraph2 provs0 ret = .ok g) (hb : build2 g = .ok b)
    (hs : buildStmts2 g b.pools = .ok (parent, chains))
    {s : T1.Pcs} (hr : T1.Reach (emitPlan b parent chains) s)
    {t o : Nat} {args : List Nat} {v : Nat}
    (hop : T1.opAt (emitPlan b parent chains) t (T1.pc s t) = some (.enter o args)) (hv : v ∈ args)
    (hnp : ¬ isParamOf b v) : T1.written (emitPlan b parent chains) s v :=
  let ⟨hw, hd⟩ := stages_wf (newGraph2_gwf hg) hb hs
  T1.enter_after_writes hw hd hr hop hv hnp

/-- **C01, race freedom**: no reachable state has one thread about to read a variable and
    another thread about to write it. -/
theorem kessoku_no_race {provs0 : List PSpec} {ret : Nat} {g : Graph} {b : BuildOut}
    {parent : List Nat} {chains : List (List Nat)}
    (hg : newGraph2 provs0 ret = .ok g) (hb : build2 g = .ok b)
    (hs : buildStmts2 g b.pools = .ok (parent, chains))
    {s : T1.Pcs} (hr : T1.Reach (emitPlan b parent chains) s)
    {t t' o o' : Nat} {args rets : List Nat} {v : Nat}
    (hrd : T1.opAt (emitPlan b parent chains) t (T1.pc s t) = some (.enter o args)) (hv : v ∈ args)
    (hnp : ¬ isParamOf b v)
    (hwr : T1.opAt (emitPlan b parent chains) t' (T1.pc s t') = some (.exit o' rets)) (hv' : v ∈ rets) : False :=
  let ⟨hw, hd⟩ := stages_wf (newGraph2_gwf hg) hb hs
  T1.no_race hw hd hr hrd hv hnp hwr hv'

theorem plan_planOK {provs : List PSpec} {ret : Nat} {p : PlanOut} (h : plan provs ret = .ok p) :
    PlanOK p.g p.b p.parent p.chains :=
  let ⟨hg, hb, hs⟩ := plan_ok h
  stages_planOK (newGraph2_gwf hg) hb hs

/-- rank certificate of the emitted program: Kahn position of the owning node -/
def rankOfPlan (p : PlanOut) : T1.Op → Nat := T1.rankOf (posOf (topoOrder p.g)) (topoOrder p.g).length

theorem plan_wf {provs : List PSpec} {ret : Nat} {p : PlanOut} (h : plan provs ret = .ok p) :
    T1.WF (emitted p) (rankOfPlan p) ∧ T1.WFData (emitted p) (rankOfPlan p) (isParamOf p.b) :=
  (plan_planOK h).wf

theorem exit_not_param {provs : List PSpec} {ret : Nat} {p : PlanOut} (h : plan provs ret = .ok p)
    {t o v : Nat} {rets : List Nat} (hex : T1.Op.exit o rets ∈ T1.thread (emitted p) t) (hv : v ∈ rets) :
    ¬ isParamOf p.b v := by
  have hp := plan_planOK h
  obtain ⟨hnd, rfl⟩ := exit_mem_emitted.mp hex
  rw [isParamOf, (hp.rets_param hv).2.2, (hp.thread_node hnd).2]
  exact Bool.false_ne_true

end KV
