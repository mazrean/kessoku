/-! Reflexive-transitive closure (`Reach`) beside core's `Relation.TransGen`, and the closures of two relations
    composed both ways.  `KV/EmittedF.lean`, `KV/FailWitness.lean` and what they import must not import this module:
    inside `namespace KV.Witness` with `open T1F`, `Reach` would then mean `KV.Reach` and not `T1F.Reach`. -/
namespace KV

/-- reflexive-transitive closure -/
inductive Reach {α : Type} (r : α → α → Prop) : α → α → Prop
  | refl (a : α) : Reach r a a
  | tail {a b c : α} : Reach r a b → r b c → Reach r a c

theorem reach_iff_transGen {α : Type} {r : α → α → Prop} {a b : α} :
    Reach r a b ↔ a = b ∨ Relation.TransGen r a b := by
  constructor
  · intro h
    induction h with
    | refl => exact Or.inl rfl
    | tail _ h2 ih =>
      rcases ih with rfl | ih
      · exact Or.inr (.single h2)
      · exact Or.inr (.tail ih h2)
  · rintro (rfl | h)
    · exact .refl _
    · induction h with
      | single h1 => exact .tail (.refl _) h1
      | tail _ h2 ih => exact .tail ih h2

theorem Reach.transGen_tail {α : Type} {r : α → α → Prop} {a b c : α} (h : Reach r a b) (hbc : r b c) :
    Relation.TransGen r a c :=
  (reach_iff_transGen.mp h).elim (fun e => e ▸ .single hbc) (.tail · hbc)

theorem _root_.Relation.TransGen.mono {α : Type} {r s : α → α → Prop} {a b : α} (h : Relation.TransGen r a b)
    (hrs : ∀ a b, r a b → s a b) : Relation.TransGen s a b := by
  induction h with
  | single h1 => exact .single (hrs _ _ h1)
  | tail _ h2 ih => exact .tail ih (hrs _ _ h2)

theorem Reach.mono {α : Type} {r s : α → α → Prop} {a b : α} (h : Reach r a b) (hrs : ∀ a b, r a b → s a b) :
    Reach s a b :=
  reach_iff_transGen.mpr ((reach_iff_transGen.mp h).imp_right (·.mono hrs))

/-! ### two relations composed both ways

"Provider `q` needs provider `q'`" is "`q` requires a key" followed by "the key is supplied by `q'`"; composed the
other way round the two give a relation between type keys, which does not mention positions. -/
section
variable {α β : Type} {Q : α → β → Prop} {S : β → α → Prop}

/-- `(Q;S)⁺ = Q;(S;Q)*;S` -/
theorem transGen_comp {a a' : α} :
    Relation.TransGen (fun a a' => ∃ b, Q a b ∧ S b a') a a' ↔
      ∃ b b', Q a b ∧ Reach (fun b b' => ∃ a, S b a ∧ Q a b') b b' ∧ S b' a' := by
  constructor
  · intro h
    induction h with
    | single h1 => obtain ⟨b, hq, hs⟩ := h1; exact ⟨b, b, hq, .refl _, hs⟩
    | tail _ h2 ih =>
      obtain ⟨b, b', hq, hr, hs⟩ := ih
      obtain ⟨b2, hq2, hs2⟩ := h2
      exact ⟨b, b2, hq, .tail hr ⟨_, hs, hq2⟩, hs2⟩
  · rintro ⟨b, b', hq, hr, hs⟩
    induction hr generalizing a' with
    | refl => exact .single ⟨b, hq, hs⟩
    | tail _ h2 ih =>
      obtain ⟨a2, hs2, hq2⟩ := h2
      exact .tail (ih hs2) ⟨_, hq2, hs⟩

theorem reach_comp {a0 a : α} {b0 : β} (h0 : S b0 a0) (h : Reach (fun a a' => ∃ b, Q a b ∧ S b a') a0 a) :
    ∃ b, S b a ∧ Reach (fun b b' => ∃ a, S b a ∧ Q a b') b0 b := by
  induction h with
  | refl => exact ⟨b0, h0, .refl _⟩
  | tail _ h2 ih =>
    obtain ⟨b1, hs1, hr⟩ := ih
    obtain ⟨b, hq, hs⟩ := h2
    exact ⟨b, hs, .tail hr ⟨_, hs1, hq⟩⟩

theorem reach_comp_back (hfun : ∀ a, S b0 a → a = a0) {b : β} (h : Reach (fun b b' => ∃ a, S b a ∧ Q a b') b0 b) :
    ∀ a, S b a → Reach (fun a a' => ∃ b, Q a b ∧ S b a') a0 a := by
  induction h with
  | refl => exact fun a hs => hfun a hs ▸ .refl _
  | tail _ h2 ih =>
    obtain ⟨a1, hs1, hq⟩ := h2
    exact fun a hs => .tail (ih a1 hs1) ⟨_, hq, hs⟩

/-- `a0` reaches a cycle of `Q;S` iff `b0` reaches a cycle of `S;Q`, when `b0` supplies `a0` and nothing else -/
theorem acyclic_comp_iff {a0 : α} {b0 : β} (h0 : S b0 a0) (hfun : ∀ a, S b0 a → a = a0) :
    (∀ a, Reach (fun a a' => ∃ b, Q a b ∧ S b a') a0 a →
      ¬ Relation.TransGen (fun a a' => ∃ b, Q a b ∧ S b a') a a) ↔
    (∀ b, Reach (fun b b' => ∃ a, S b a ∧ Q a b') b0 b →
      ¬ Relation.TransGen (fun b b' => ∃ a, S b a ∧ Q a b') b b) := by
  constructor
  · intro h b hr hc
    obtain ⟨a, a', hs, hra, hq⟩ := transGen_comp.mp hc
    exact h a (reach_comp_back hfun hr a hs) (hra.transGen_tail ⟨b, hq, hs⟩)
  · intro h a hr hc
    obtain ⟨b, hs, hrb⟩ := reach_comp h0 hr
    obtain ⟨b1, b2, hq, hrb', hs2⟩ := transGen_comp.mp hc
    exact h b1 (.tail hrb ⟨a, hs, hq⟩) (hrb'.transGen_tail ⟨a, hs2, hq⟩)

end

end KV
