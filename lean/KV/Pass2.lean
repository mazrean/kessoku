import KV.Pass1
/-! The second pass of `Build` (graph.go): every edge wires one argument slot of its consumer to a result variable
    of its producer, marks it `IsWait` when the two sit in different pools, and counts the reference on the variable.
    It is read as one fold over the (producer, edge) pairs.  Then the stages of `build2` by name. -/
namespace KV

def shouldWaitB (p1 : P1St) (n m : Nat) : Bool :=
  !(match p1.nodePool.getD n none, p1.nodePool.getD m none with
    | some a, some b => a == b
    | _, _ => false)

def argVal (p1 : P1St) (n : Nat) (e : Edge) : CallArg :=
  { param := (p1.nodeRets.getD n []).getD e.src 0, isWait := shouldWaitB p1 n e.dst }

def edgePairs (g : Graph) (order : List Nat) : List (Nat × Edge) :=
  order.flatMap (fun n => (g.edges.getD n []).map (fun e => (n, e)))

theorem mem_edgePairs {g : Graph} {order : List Nat} {n : Nat} {e : Edge} :
    (n, e) ∈ edgePairs g order ↔ n ∈ order ∧ e ∈ g.edges.getD n [] := by
  simp only [edgePairs, List.mem_flatMap, List.mem_map, Prod.mk.injEq]
  exact ⟨fun ⟨_, hn, _, he, h1, h2⟩ => h1 ▸ h2 ▸ ⟨hn, he⟩, fun ⟨hn, he⟩ => ⟨n, hn, e, he, rfl, rfl⟩⟩

def p2Pair (p1 : P1St) (st : P2St) (x : Nat × Edge) : P2St := p2Edge p1 x.1 st x.2

def p2Init (g : Graph) (params0 : List Param) : P2St :=
  { params := params0,
    nodeArgs := (List.range g.nodes.length).map (fun i => List.replicate (nodeSlots g i) { param := 0, isWait := false }) }

theorem bpass2_eq (g : Graph) (order : List Nat) (p1 : P1St) (params0 : List Param) :
    bpass2 g order p1 params0 = (edgePairs g order).foldl (p2Pair p1) (p2Init g params0) := by
  simp only [bpass2, edgePairs, List.foldl_flatMap, List.foldl_map, p2Pair, p2Init]
  rfl

def bumpParam (sw : Bool) (p : Param) : Param :=
  { p with refs := p.refs + 1, withChan := !p.isArg && (p.withChan || sw) }

theorem p2Edge_eq (p1 : P1St) (n : Nat) (st : P2St) (e : Edge) :
    p2Edge p1 n st e =
      { params := listModify st.params (argVal p1 n e).param (bumpParam (shouldWaitB p1 n e.dst)),
        nodeArgs := listModify st.nodeArgs e.dst (·.set e.slot (argVal p1 n e)) } := rfl

def dfltArg : CallArg := { param := 0, isWait := false }

theorem getD_p2Edge_params (p1 : P1St) (n : Nat) (st : P2St) (e : Edge) (v : Nat) :
    (p2Edge p1 n st e).params.getD v default =
      if (argVal p1 n e).param = v ∧ v < st.params.length
      then bumpParam (shouldWaitB p1 n e.dst) (st.params.getD v default) else st.params.getD v default := by
  rw [p2Edge_eq, getD_listModify]
  by_cases hv : (argVal p1 n e).param = v
  · rw [hv]
  · rw [if_neg fun h => hv h.1, if_neg fun h => hv h.1]

theorem getD_p2Edge_nodeArgs (p1 : P1St) (n : Nat) (st : P2St) (e : Edge) (d s : Nat) :
    ((p2Edge p1 n st e).nodeArgs.getD d []).getD s dfltArg =
      if (e.dst = d ∧ d < st.nodeArgs.length) ∧ e.slot = s ∧ s < (st.nodeArgs.getD d []).length
      then argVal p1 n e else (st.nodeArgs.getD d []).getD s dfltArg := by
  rw [p2Edge_eq, getD_listModify]
  by_cases hd : e.dst = d ∧ e.dst < st.nodeArgs.length
  · obtain ⟨rfl, hl⟩ := hd
    rw [if_pos ⟨rfl, hl⟩, List.getD_set]
    by_cases hs : e.slot = s
    · subst hs; simp only [hl, and_self, true_and]
    · rw [if_neg fun h => hs h.1, if_neg fun h => hs h.2.1]
  · have hd' : ¬ ((e.dst = d ∧ d < st.nodeArgs.length) ∧ e.slot = s ∧ s < (st.nodeArgs.getD d []).length) :=
      fun h => hd ⟨h.1.1, h.1.1 ▸ h.1.2⟩
    rw [if_neg hd, if_neg hd']

structure P2Inv (g : Graph) (p1 : P1St) (params0 : List Param) (proc : List (Nat × Edge)) (st : P2St) : Prop where
  lenA : st.nodeArgs.length = g.nodes.length
  slotLen : ∀ m, m < g.nodes.length → (st.nodeArgs.getD m []).length = nodeSlots g m
  written : ∀ x ∈ proc, x.2.dst < g.nodes.length → x.2.slot < nodeSlots g x.2.dst →
    ∃ y ∈ proc, y.2.dst = x.2.dst ∧ y.2.slot = x.2.slot ∧
      (st.nodeArgs.getD x.2.dst []).getD x.2.slot dfltArg = argVal p1 y.1 y.2
  plen : st.params.length = params0.length
  pnode : ∀ v, (st.params.getD v default).node = (params0.getD v default).node
  pisArg : ∀ v, (st.params.getD v default).isArg = (params0.getD v default).isArg
  chan : ∀ x ∈ proc, shouldWaitB p1 x.1 x.2.dst = true → (argVal p1 x.1 x.2).param < params0.length →
    (params0.getD (argVal p1 x.1 x.2).param default).isArg = false →
    (st.params.getD (argVal p1 x.1 x.2).param default).withChan = true
  chanKeep : ∀ v, (params0.getD v default).isArg = false → (params0.getD v default).withChan = true →
    (st.params.getD v default).withChan = true
  argNoChan : (∀ v, (params0.getD v default).withChan = false) →
    ∀ v, (st.params.getD v default).isArg = true → (st.params.getD v default).withChan = false

theorem p2Init_inv (g : Graph) (p1 : P1St) (params0 : List Param) : P2Inv g p1 params0 [] (p2Init g params0) where
  lenA := by simp [p2Init]
  slotLen := by
    intro m hm
    simp [p2Init, List.getD_eq_getElem?_getD, hm]
  written := by intro x hx; simp at hx
  plen := rfl
  pnode := fun _ => rfl
  pisArg := fun _ => rfl
  chan := by intro x hx; simp at hx
  chanKeep := fun _ _ h => h
  argNoChan := fun h0 v _ => h0 v

theorem p2Pair_inv {g : Graph} {p1 : P1St} {params0 : List Param} {proc : List (Nat × Edge)} {st : P2St}
    (h : P2Inv g p1 params0 proc st) (x : Nat × Edge) :
    P2Inv g p1 params0 (proc ++ [x]) (p2Pair p1 st x) := by
  obtain ⟨n, e⟩ := x
  show P2Inv g p1 params0 (proc ++ [(n, e)]) (p2Edge p1 n st e)
  -- a parameter keeps its node and its kind; its channel flag changes only where the edge is wired
  have hkeep : ∀ {β} (π : Param → β), (∀ sw q, π (bumpParam sw q) = π q) →
      ∀ v, π ((p2Edge p1 n st e).params.getD v default) = π (st.params.getD v default) :=
    fun π hπ v => getD_listModify_congr π (hπ _) v default
  have hchan : ∀ v, ((p2Edge p1 n st e).params.getD v default).withChan =
      if (argVal p1 n e).param = v ∧ v < st.params.length
      then (!(st.params.getD v default).isArg && ((st.params.getD v default).withChan || shouldWaitB p1 n e.dst))
      else (st.params.getD v default).withChan := by
    intro v
    rw [getD_p2Edge_params]; split <;> rfl
  have hstays : ∀ v, (params0.getD v default).isArg = false → (st.params.getD v default).withChan = true →
      ((p2Edge p1 n st e).params.getD v default).withChan = true := by
    intro v hna hw
    rw [hchan]; split
    · rw [(h.pisArg v).trans hna, hw]; rfl
    · exact hw
  refine { lenA := (listModify_length ..).trans h.lenA, slotLen := ?slotLen, written := ?written,
           plen := (listModify_length ..).trans h.plen,
           pnode := fun v => (hkeep Param.node (fun _ _ => rfl) v).trans (h.pnode v),
           pisArg := fun v => (hkeep Param.isArg (fun _ _ => rfl) v).trans (h.pisArg v),
           chan := ?chan, chanKeep := fun v h1 h2 => hstays v h1 (h.chanKeep v h1 h2), argNoChan := ?argNoChan }
  case slotLen =>
    intro m hm
    exact (getD_listModify_congr List.length (fun _ => List.length_set) m []).trans (h.slotLen m hm)
  case written =>
    intro y hy hyd hys
    rw [getD_p2Edge_nodeArgs]
    by_cases hsame : e.dst = y.2.dst ∧ e.slot = y.2.slot
    · -- the slot just written
      refine ⟨(n, e), by simp, hsame.1, hsame.2, ?_⟩
      rw [if_pos ⟨⟨hsame.1, by rw [h.lenA]; exact hyd⟩, hsame.2, by rw [h.slotLen _ hyd]; exact hys⟩]
    · -- an untouched slot keeps its witness
      have hy' : y ∈ proc := by
        rcases List.mem_append.mp hy with hy | hy
        · exact hy
        · rw [List.mem_singleton.mp hy] at hsame; exact absurd ⟨rfl, rfl⟩ hsame
      obtain ⟨z, hz, hzd, hzs, hval⟩ := h.written y hy' hyd hys
      exact ⟨z, List.mem_append_left _ hz, hzd, hzs, by rw [if_neg fun hc => hsame ⟨hc.1.1, hc.2.1⟩]; exact hval⟩
  case chan =>
    intro y hy hsw hlt hna
    rcases List.mem_append.mp hy with hy | hy
    · exact hstays _ hna (h.chan y hy hsw hlt hna)
    · -- the edge just processed
      rw [List.mem_singleton.mp hy] at hsw hlt hna ⊢
      rw [hchan, if_pos ⟨rfl, by rw [h.plen]; exact hlt⟩, (h.pisArg _).trans hna, hsw, Bool.or_true]; rfl
  case argNoChan =>
    intro h0 v hia
    have hia' : (st.params.getD v default).isArg = true := (hkeep Param.isArg (fun _ _ => rfl) v).symm.trans hia
    rw [hchan]; split
    · rw [hia']; rfl
    · exact h.argNoChan h0 v hia'

theorem bpass2_induction {g : Graph} {order : List Nat} {p1 : P1St} {params0 : List Param}
    {X : List (Nat × Edge) → P2St → Prop} (h0 : X [] (p2Init g params0))
    (step : ∀ proc x st, P2Inv g p1 params0 proc st → X proc st → X (proc ++ [x]) (p2Pair p1 st x)) :
    P2Inv g p1 params0 (edgePairs g order) (bpass2 g order p1 params0) ∧
      X (edgePairs g order) (bpass2 g order p1 params0) := by
  rw [bpass2_eq]
  exact List.foldl_prefix_induction (p2Pair p1) (fun proc st => P2Inv g p1 params0 proc st ∧ X proc st) _
    ⟨p2Init_inv g p1 params0, h0⟩ fun proc x _ st _ ⟨h, hx⟩ => ⟨p2Pair_inv h x, step proc x st h hx⟩

theorem bpass2_inv (g : Graph) (order : List Nat) (p1 : P1St) (params0 : List Param) :
    P2Inv g p1 params0 (edgePairs g order) (bpass2 g order p1 params0) :=
  (bpass2_induction (X := fun _ _ => True) trivial fun _ _ _ _ _ => trivial).1

/-- what the second pass does to `refs` and `withChan`, exactly (beside `P2Inv`, which bounds them from below) -/
structure P2Cnt (p1 : P1St) (params0 : List Param) (proc : List (Nat × Edge)) (st : P2St) : Prop where
  refs : ∀ v, v < params0.length → (st.params.getD v default).refs =
    (params0.getD v default).refs + proc.countP (fun x => (p1.nodeRets.getD x.1 []).getD x.2.src 0 == v)
  chanOnly : ∀ v, (st.params.getD v default).withChan = true →
    (params0.getD v default).withChan = true ∨
      ∃ x ∈ proc, (p1.nodeRets.getD x.1 []).getD x.2.src 0 = v ∧ shouldWaitB p1 x.1 x.2.dst = true

theorem p2Pair_cnt {g : Graph} {p1 : P1St} {params0 : List Param} {proc : List (Nat × Edge)} {st : P2St}
    (hinv : P2Inv g p1 params0 proc st) (h : P2Cnt p1 params0 proc st) (x : Nat × Edge) :
    P2Cnt p1 params0 (proc ++ [x]) (p2Pair p1 st x) := by
  obtain ⟨n, e⟩ := x
  refine ⟨?_, ?_⟩
  · -- the edge bumps `refs` of the variable it is wired to, and of no other
    intro v hv
    rw [p2Pair, getD_p2Edge_params, List.countP_append, List.countP_singleton, ← Nat.add_assoc, ← h.refs v hv]
    by_cases hve : (p1.nodeRets.getD n []).getD e.src 0 = v
    · rw [if_pos ⟨hve, by rw [hinv.plen]; exact hv⟩, if_pos (beq_iff_eq.mpr hve)]; rfl
    · rw [if_neg fun hc => hve hc.1, if_neg fun hc => hve (beq_iff_eq.mp hc)]; rfl
  · intro v hw
    have old : (st.params.getD v default).withChan = true → (params0.getD v default).withChan = true ∨
        ∃ x ∈ proc ++ [(n, e)], (p1.nodeRets.getD x.1 []).getD x.2.src 0 = v ∧ shouldWaitB p1 x.1 x.2.dst = true :=
      fun hw => (h.chanOnly v hw).imp_right fun ⟨x, hx, hh⟩ => ⟨x, List.mem_append_left _ hx, hh⟩
    rw [p2Pair, getD_p2Edge_params] at hw
    split at hw
    · -- the bumped record has a channel only if it had one, or this edge's consumer waits
      rename_i hc
      obtain ⟨rfl, _⟩ := hc
      simp only [bumpParam, Bool.and_eq_true, Bool.or_eq_true] at hw
      exact hw.2.elim old fun hsw => Or.inr ⟨(n, e), List.mem_append_right _ (List.mem_singleton_self _), rfl, hsw⟩
    · exact old hw

theorem bpass2_cnt (g : Graph) (order : List Nat) (p1 : P1St) (params0 : List Param) :
    P2Cnt p1 params0 (edgePairs g order) (bpass2 g order p1 params0) :=
  (bpass2_induction (X := P2Cnt p1 params0) ⟨fun _ _ => rfl, fun _ h => Or.inl h⟩
    fun _ x _ hinv h => p2Pair_cnt hinv h x).2

/-! ## the stages of `build2` -/

/-- the first pass over the Kahn order; its parameter table with the returned parameter counted once; the second
    pass -/
def st1Of (g : Graph) : P1St := bpass1 g (topoOrder g) (maxAntichain g)
def params0Of (g : Graph) : List Param := listModify (st1Of g).params (retParamOf g (st1Of g)) refBump
def st2Of (g : Graph) : P2St := bpass2 g (topoOrder g) (st1Of g) (params0Of g)

theorem st1Of_rec (g : Graph) : P1Rec g (st1Of g) := bpass1_rec g _ _

theorem params0Of_length (g : Graph) : (params0Of g).length = (st1Of g).params.length := listModify_length ..

theorem params0Of_fields (g : Graph) (v : Nat) :
    ((params0Of g).getD v default).isArg = ((st1Of g).params.getD v default).isArg ∧
    ((params0Of g).getD v default).node = ((st1Of g).params.getD v default).node ∧
    ((params0Of g).getD v default).withChan = ((st1Of g).params.getD v default).withChan :=
  have hkeep {β} (π : Param → β) (hπ : ∀ q, π (refBump q) = π q) :=
    getD_listModify_congr (l := (st1Of g).params) (i := retParamOf g (st1Of g)) π hπ v default
  ⟨hkeep Param.isArg fun _ => rfl, hkeep Param.node fun _ => rfl, hkeep Param.withChan fun _ => rfl⟩

theorem params0Of_refs (g : Graph) (v : Nat) (hv : v < (st1Of g).params.length) :
    ((params0Of g).getD v default).refs = (if v = retParamOf g (st1Of g) then 1 else 0) := by
  have h0 : ((st1Of g).params.getD v default).refs = 0 := ((st1Of_rec g).unused _ (List.getD_mem_of_lt default hv)).1
  rw [params0Of, getD_listModify]
  by_cases hve : v = retParamOf g (st1Of g)
  · rw [if_pos ⟨hve.symm, hve ▸ hv⟩, if_pos hve, ← hve]
    exact congrArg (· + 1) h0
  · rw [if_neg fun hc => hve hc.1.symm, if_neg hve, h0]

def buildOut (g : Graph) : BuildOut :=
  { params := (st2Of g).params, args := (st1Of g).args, retParam := retParamOf g (st1Of g), isErr := (st1Of g).isErr,
    pools := (st1Of g).pools, nodePool := (st1Of g).nodePool, nodeRets := (st1Of g).nodeRets,
    nodeArgs := (st2Of g).nodeArgs }

theorem build2_eq (g : Graph) :
    build2 g = if (topoOrder g).contains g.retNode then .ok (buildOut g) else .error .noReturn := rfl

theorem build2_eq_buildOut {g : Graph} {b : BuildOut} (hb : build2 g = .ok b) :
    g.retNode ∈ topoOrder g ∧ b = buildOut g := by
  rw [build2_eq] at hb
  split at hb
  · rename_i hc
    exact ⟨by simpa using hc, (Except.ok.inj hb).symm⟩
  · cases hb

end KV
