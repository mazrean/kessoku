import KV.Generated.Orders
/-! C14 helper: a call list in which the file write is the last call and every earlier call returns its
    error never starts the write when an earlier call fails. -/
namespace Imp

/-- run a call list in which call number `failAt` fails: the names of the calls that were started, and
    whether an error is reported.  A failing call with `errReturns = true` stops the run (its name IS in
    the started list, later ones are not) and sets the error flag; a failing call whose error is not
    returned is ignored. -/
def runCalls : List Gen.CallFact → Option Nat → List String × Bool
  | [], _ => ([], false)
  | c :: cs, some 0 =>
    if c.errReturns then ([c.name], true)
    else (c.name :: (runCalls cs none).1, (runCalls cs none).2)
  | c :: cs, some (i + 1) => (c.name :: (runCalls cs (some i)).1, (runCalls cs (some i)).2)
  | c :: cs, none => (c.name :: (runCalls cs none).1, (runCalls cs none).2)

/-- every call returns its error (`errReturns`) and `w` occurs exactly once, as the last call -/
def WriteLast : List Gen.CallFact → String → Bool
  | [], _ => false
  | [c], w => c.errReturns && c.name == w
  | c :: c' :: cs, w => c.errReturns && c.name != w && WriteLast (c' :: cs) w

theorem writeLast_sound {cs : List Gen.CallFact} {w : String} (h : WriteLast cs w = true) :
    ∀ i, i + 1 < cs.length → let r := runCalls cs (some i); w ∉ r.1 ∧ r.2 = true := by
  intro i hi
  show w ∉ (runCalls cs (some i)).1 ∧ (runCalls cs (some i)).2 = true
  induction cs generalizing i with
  | nil => simp at hi
  | cons c rest ih =>
    cases rest with
    | nil => simp at hi
    | cons c' cs =>
      simp only [WriteLast, Bool.and_eq_true, bne_iff_ne, ne_eq] at h
      obtain ⟨⟨he, hne⟩, hrest⟩ := h
      cases i with
      | zero =>
        simp only [runCalls, he, ↓reduceIte, List.mem_singleton, and_true]
        exact fun e => hne e.symm
      | succ j =>
        obtain ⟨h1, h2⟩ := ih hrest j (by simpa using hi)
        simp only [runCalls, List.mem_cons, not_or]
        exact ⟨⟨fun e => hne e.symm, h1⟩, h2⟩

/-- with no failure every call is started, in order, and no error is reported -/
theorem runCalls_none (cs : List Gen.CallFact) : runCalls cs none = (cs.map (·.name), false) := by
  induction cs with
  | nil => rfl
  | cons c cs ih => simp only [runCalls, ih, List.map_cons]

/-- the last call of a `WriteLast` list is `w` -/
theorem writeLast_last {cs : List Gen.CallFact} {w : String} (h : WriteLast cs w = true) :
    cs.getLast?.map (·.name) = some w := by
  induction cs with
  | nil => simp [WriteLast] at h
  | cons c rest ih =>
    cases rest with
    | nil =>
      simp only [WriteLast, Bool.and_eq_true, beq_iff_eq] at h
      simp [h.2]
    | cons c' cs =>
      simp only [WriteLast, Bool.and_eq_true] at h
      rw [List.getLast?_cons_cons]
      exact ih h.2

end Imp
