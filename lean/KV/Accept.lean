import KV.AcceptBfs
import KV.AcceptDfs
import KV.AcceptKahn
import KV.AcceptStmts
import KV.Refuse
/-! C09, acceptance: a declaration that has a supplier map, a supplier of the requested type and no `Needs` cycle
    reachable from it is accepted (`accepted_of_acceptable`), because no stage fails: the BFS drains its queue
    (KV/AcceptBfs.lean), the DFS finds no cycle (KV/AcceptDfs.lean) since a cycle of the built graph is a cycle of
    `Needs` (`cycle_needs`), Kahn's order is complete (KV/AcceptKahn.lean), and on a complete order `build2` and
    `buildStmts2` succeed (KV/AcceptStmts.lean).  With `accepted_needs_acyclic` this is `accepted_iff_acyclic`. -/
namespace KV

/-- The hypothesis `hprov` is needed: when nobody supplies the requested type the graph is a single argument node, no
    pool is non-empty and `buildStmts2` answers `noInitial` (the known deviation; `no_supplier_refused` below is a
    concrete instance). -/
theorem stages_ok_of_gwf {g : Graph} (hg : GWF2 g) (hret : g.retNode < g.nodes.length)
    (hsrc : ∀ n e, e ∈ g.edges.getD n [] → n < g.nodes.length) (hacyc : ∀ n, ¬ Path g n n)
    (hprov : ∃ n, n < g.nodes.length ∧ (g.nodes.getD n default).isArg = false) :
    ∃ b parent chains, build2 g = .ok b ∧ buildStmts2 g b.pools = .ok (parent, chains) := by
  have hall := topoOrder_complete hg hsrc hacyc
  obtain ⟨b, hb⟩ := build2_ok (hall _ hret)
  obtain ⟨n0, hn0, hna⟩ := hprov
  obtain ⟨parent, chains, hs⟩ := buildStmts2_ok hg hall hn0 hna hb
  exact ⟨b, parent, chains, hb, hs⟩

/-- nobody supplies type 5, the graph is accepted by `newGraph2` and has no cycle, but the plan is refused with
    `noInitial` -/
theorem no_supplier_refused : RefuseExamples.errOf (plan [] 5) = some .noInitial := by decide

theorem cycle_needs {provs : List PSpec} {sup : SupMap} {rp : Nat} {st : BfsSt} (hf : BfsFacts provs sup rp st)
    {g : Graph} (hge : g.edges = st.edges) {n : Nat} (hpath : Path g n n) :
    ∃ q, Reach (Needs provs sup) rp q ∧ Relation.TransGen (Needs provs sup) q q := by
  obtain ⟨hna, hcyc⟩ := path_needs hge hf.prov hpath
  obtain ⟨e, he⟩ := hpath.src_edge
  exact ⟨_, bfs_node_reach hf n (hf.inv.edgeOK n e (hge ▸ he)).1 hna, hcyc hna⟩

theorem accepted_of_acceptable {provs0 : List PSpec} {ret : Nat} {provs : List PSpec} {sup : SupMap} {rp ri : Nat}
    (hexp : supplierMap provs0 = .ok (provs, sup))
    (hret : sup.lookup ret = some (rp, ri))
    (hacyc : ∀ q, Reach (Needs provs sup) rp q → ¬ Relation.TransGen (Needs provs sup) q q) :
    ∃ p, plan provs0 ret = .ok p := by
  obtain ⟨st, hst⟩ : ∃ st, st = bfsLoop provs sup (bfsFuel provs) (bfsInit rp) := ⟨_, rfl⟩
  have hf : BfsFacts provs sup rp st := hst ▸ bfsLoop_facts (supplierMap_supOK hexp) rp _
  have hq : st.queue = [] := hst ▸ bfsLoop_drained (supplierMap_supOK hexp) rp
  -- the graph `newGraph2` returns; it has no cycle, so the DFS finds none
  let g : Graph := { provs := provs, nodes := st.nodes, edges := st.edges, rev := st.rev, retNode := 0, retIdx := ri }
  have hnocyc : ∀ n, ¬ Path g n n := fun n hpath =>
    let ⟨q, hreach, hcyc⟩ := cycle_needs hf (g := g) rfl hpath
    hacyc q hreach hcyc
  have hdc : detectCycles st.edges st.nodes.length = false :=
    detectCycles_false g _ (fun _ _ he => hf.inv.dst_lt he) hnocyc
  have hg : newGraph2 provs0 ret = .ok g :=
    (newGraph2_of_supplierMap ret hexp).trans (graphOf_of_drained hret hst hq hdc)
  obtain ⟨b, parent, chains, hb, hs⟩ := stages_ok_of_gwf (g := g) (gwf2_of_binv hf.inv hq ri) hf.root.1
    (fun n e he => (hf.inv.edgeOK n e he).1) hnocyc
    ⟨0, hf.root.1, by show (st.nodes.getD 0 default).isArg = false; rw [hf.root.2]⟩
  exact ⟨_, plan_of_stages hg hb hs⟩

theorem accepted_iff_acyclic {provs0 : List PSpec} {ret : Nat} {provs : List PSpec} {sup : SupMap} {rp ri : Nat}
    (hexp : supplierMap provs0 = .ok (provs, sup)) (hret : sup.lookup ret = some (rp, ri)) :
    (∃ p, plan provs0 ret = .ok p) ↔
      (∀ q, Reach (Needs provs sup) rp q → ¬ Relation.TransGen (Needs provs sup) q q) :=
  ⟨fun ⟨_, hp⟩ _ hreach => accepted_needs_acyclic hp hexp hret hreach, accepted_of_acceptable hexp hret⟩

namespace AcceptExamples

/-- provider 0 makes type 1 from types 2 and 3, provider 1 makes 2 from 3, provider 2 makes 3 from the
    unsupplied type 9 (a diamond) -/
def decl : List PSpec :=
  [{ provides := [[1]], requires := [2, 3] }, { provides := [[2]], requires := [3] }, { provides := [[3]], requires := [9] }]

def declSup : SupMap := [(1, (0, 0)), (2, (1, 0)), (3, (2, 0))]

theorem decl_exp : supplierMap decl = .ok (decl, declSup) := by rfl

theorem decl_trans_lt {a b : Nat} (h : Relation.TransGen (Needs decl declSup) a b) : a < b := by
  -- the supplier of a requirement stands later in the list: a finite check, provider by provider
  have step : ∀ {a b : Nat}, Needs decl declSup a b → a < b := by
    rintro a b ⟨t, ht, gi, hl⟩
    have key : ∀ a < 3, ∀ t ∈ (decl.getD a default).requires, ∀ r ∈ declSup.lookup t, a < r.1 := by decide
    by_cases ha : a < 3
    · exact key a ha t ht (b, gi) hl
    · rw [List.getD_eq_default _ (Nat.le_of_not_lt ha)] at ht; cases ht
  induction h with
  | single h1 => exact step h1
  | tail _ h2 ih => exact Nat.lt_trans ih (step h2)

example : ∃ p, plan decl 1 = .ok p :=
  accepted_of_acceptable (rp := 0) (ri := 0) decl_exp rfl (fun _ _ hc => Nat.lt_irrefl _ (decl_trans_lt hc))

end AcceptExamples

end KV

#print axioms KV.bfsLoop_drained
#print axioms KV.detectCycles_sound
#print axioms KV.topoOrder_complete
#print axioms KV.stages_ok_of_gwf
#print axioms KV.cycle_needs
#print axioms KV.accepted_of_acceptable
#print axioms KV.accepted_iff_acyclic
