import KV.Suppliers
/-! Reordering the providers of a declaration changes neither the supplier relation nor whether it exists: if both
    orders have a supplier map, every type key has the same provider as its supplier (`perm_suppliers`; positions in
    the expanded lists differ, so suppliers are compared as `PSpec`s: `SameSup`), and one order has a supplier map iff
    the other has (`perm_supplierMap_isOk`: the criterion of `supplierMap_isOk_iff` reads the providers as a multiset). -/
namespace KV

/-- the two supplier maps agree on type key `t`: nobody supplies it in either, or it is supplied as the same result
    group by *the same provider* — equal `PSpec`s, hence the same label (`decl`, `fieldName`), `requires`,
    `provides`, `isErr`, … — whatever its position in the two expanded lists -/
def SameSup (provs' : List PSpec) (sup' : SupMap) (provs : List PSpec) (sup : SupMap) (t : Nat) : Prop :=
  (sup'.lookup t = none ∧ sup.lookup t = none) ∨
  ∃ p' p gi, sup'.lookup t = some (p', gi) ∧ sup.lookup t = some (p, gi) ∧
    provs'.getD p' default = provs.getD p default

theorem SameSup.symm {provs' provs : List PSpec} {sup' sup : SupMap} {t : Nat} (h : SameSup provs' sup' provs sup t) :
    SameSup provs sup provs' sup' t :=
  h.imp And.symm fun ⟨p', p, gi, h1, h2, h3⟩ => ⟨p, p', gi, h2, h1, h3.symm⟩

theorem SameSup.some {provs' provs : List PSpec} {sup' sup : SupMap} {t p' gi : Nat}
    (h : SameSup provs' sup' provs sup t) (hl : sup'.lookup t = some (p', gi)) :
    ∃ p, sup.lookup t = some (p, gi) ∧ provs'.getD p' default = provs.getD p default := by
  rcases h with ⟨h1, _⟩ | ⟨p1', p, gi1, h1, h2, h3⟩
  · rw [hl] at h1; cases h1
  · rw [hl] at h1; cases h1; exact ⟨p, h2, h3⟩

theorem perm_structsOf {provs0' provs0 : List PSpec} (hperm : provs0'.Perm provs0) :
    (structsOf provs0').Perm (structsOf provs0) := hperm.filter _

theorem perm_suppliers {provs0' provs0 provs' provs : List PSpec} {sup' sup : SupMap} (hperm : provs0'.Perm provs0)
    (hs' : supplierMap provs0' = .ok (provs', sup')) (hs : supplierMap provs0 = .ok (provs, sup)) (t : Nat) :
    SameSup provs' sup' provs sup t := by
  have S' := supplierMap_spec hs'
  have S := supplierMap_spec hs
  by_cases hfn : ∃ q ∈ provs0, q.kind ≠ 1 ∧ Lists q t
  · obtain ⟨q, hq, hk, hl⟩ := hfn
    have hq' := hperm.mem_iff.mpr hq
    obtain ⟨k, hk0⟩ := List.mem_iff_getElem?.mp hq
    obtain ⟨k', hk0'⟩ := List.mem_iff_getElem?.mp hq'
    right
    refine ⟨k', k, groupIdx t q.provides, S'.fn k' q t hk0' hk hl, S.fn k q t hk0 hk hl, ?_⟩
    rw [S'.getD_declared hk0', S.getD_declared hk0]
  · by_cases hfd : t ∈ allFieldTys (structsOf provs0)
    · obtain ⟨sp, hsp, htf⟩ := List.mem_flatMap.mp hfd
      obtain ⟨⟨fname, _⟩, hf, rfl⟩ := List.mem_map.mp htf
      have hsp' := (perm_structsOf hperm).mem_iff.mpr hsp
      obtain ⟨idx, h1, h2⟩ := S.field sp fname _ hsp hf
      obtain ⟨idx', h1', h2'⟩ := S'.field sp fname _ hsp' hf
      right
      exact ⟨idx', idx, 0, h1', h1, by rw [List.getD_of_getElem? _ h2', List.getD_of_getElem? _ h2]⟩
    · left
      refine ⟨S'.none t ?_ ?_, S.none t ?_ hfd⟩
      · intro q hq hk hl
        exact hfn ⟨q, hperm.mem_iff.mp hq, hk, hl⟩
      · intro hc
        exact hfd ((allFieldTys_perm (perm_structsOf hperm)).mem_iff.mp hc)
      · intro q hq hk hl
        exact hfn ⟨q, hq, hk, hl⟩

/-- every struct expansion has its struct type listed by a function provider -/
def FnSourced (provs0 : List PSpec) : Prop :=
  ∀ sp ∈ provs0, sp.kind = 1 → ∃ q ∈ provs0, q.kind ≠ 1 ∧ Lists q sp.structTy

/-- unambiguous: no type key is listed by two function providers, by two expanded struct fields, or by a function
    provider and an expanded struct field -/
def Unamb (provs0 : List PSpec) : Prop :=
  (∀ q1 ∈ provs0, ∀ q2 ∈ provs0, q1.kind ≠ 1 → q2.kind ≠ 1 → ∀ t, Lists q1 t → Lists q2 t → q1 = q2) ∧
  (allFieldTys (structsOf provs0)).Nodup ∧
  (∀ q ∈ provs0, q.kind ≠ 1 → ∀ t, Lists q t → t ∉ allFieldTys (structsOf provs0))

/-- with distinct labels, equal providers sit at equal positions -/
theorem unamb_iff_unambIdx {provs0 : List PSpec} (hnd : (provs0.map (·.decl)).Nodup) : Unamb provs0 ↔ UnambIdx provs0 := by
  refine and_congr_left' ⟨?_, ?_⟩
  · intro h i j qi qj t hi hj hki hkj hli hlj
    have hqq : qi = qj := h qi (List.mem_of_getElem? hi) qj (List.mem_of_getElem? hj) hki hkj t hli hlj
    subst hqq
    apply hnd.eq_of_getElem? (a := qi.decl)
    · simp only [List.getElem?_map, hi, Option.map_some]
    · simp only [List.getElem?_map, hj, Option.map_some]
  · intro h q1 hq1 q2 hq2 hk1 hk2 t hl1 hl2
    obtain ⟨i, hi⟩ := List.mem_iff_getElem?.mp hq1
    obtain ⟨j, hj⟩ := List.mem_iff_getElem?.mp hq2
    have := h i j q1 q2 t hi hj hk1 hk2 hl1 hl2
    subst this
    rw [hi] at hj
    exact Option.some.inj hj

/-- the simplest way of being sourced: every struct type is listed by a function provider -/
theorem structsSourced_of_fnSourced {provs0 : List PSpec} (h : FnSourced provs0) : StructsSourced provs0 := by
  intro sp hsp hk
  obtain ⟨q, hq, hqk, hl⟩ := h sp hsp hk
  exact .fn q hq hqk hl

theorem supplierMap_ok_iff {provs0 : List PSpec} (hnd : (provs0.map (·.decl)).Nodup) :
    (∃ r, supplierMap provs0 = .ok r) ↔ (Unamb provs0 ∧ StructsSourced provs0) := by
  rw [unamb_iff_unambIdx hnd]
  exact supplierMap_isOk_iff

theorem FnSourced.perm {provs0' provs0 : List PSpec} (hperm : provs0'.Perm provs0) (h : FnSourced provs0) :
    FnSourced provs0' := by
  intro sp hsp hk
  obtain ⟨q, hq, hqk, hl⟩ := h sp (hperm.mem_iff.mp hsp) hk
  exact ⟨q, hperm.mem_iff.mpr hq, hqk, hl⟩

theorem Sourced.perm {provs0' provs0 : List PSpec} (hperm : provs0'.Perm provs0) {t : Nat} (h : Sourced provs0 t) :
    Sourced provs0' t := by
  induction h with
  | fn q hq hk hl => exact .fn q (hperm.mem_iff.mpr hq) hk hl
  | field sp hsp hk _ ht ih => exact .field sp (hperm.mem_iff.mpr hsp) hk ih ht

theorem StructsSourced.perm {provs0' provs0 : List PSpec} (hperm : provs0'.Perm provs0) (h : StructsSourced provs0) :
    StructsSourced provs0' :=
  fun sp hsp hk => (h sp (hperm.mem_iff.mp hsp) hk).perm hperm

theorem unambIdx_iff_pairwise {ps : List PSpec} :
    (∀ (i j : Nat) (qi qj : PSpec) (t : Nat), ps[i]? = some qi → ps[j]? = some qj → qi.kind ≠ 1 → qj.kind ≠ 1 →
      Lists qi t → Lists qj t → i = j) ↔
    ps.Pairwise fun a b => a.kind ≠ 1 → b.kind ≠ 1 → ∀ t, Lists a t → ¬ Lists b t := by
  constructor
  · intro h
    rw [List.pairwise_iff_getElem]
    intro i j hi hj hlt hki hkj t hli hlj
    have := h i j _ _ t (List.getElem?_eq_getElem hi) (List.getElem?_eq_getElem hj) hki hkj hli hlj
    omega
  · intro h i j qi qj t hi hj hki hkj hli hlj
    exact h.eq_of_getElem? hi hj (fun hR => hR hki hkj t hli hlj) (fun hR => hR hkj hki t hlj hli)

theorem UnambIdx.perm {provs0' provs0 : List PSpec} (hperm : provs0'.Perm provs0) (h : UnambIdx provs0) :
    UnambIdx provs0' := by
  obtain ⟨h1, h2, h3⟩ := h
  have hf := allFieldTys_perm (perm_structsOf hperm)
  refine ⟨unambIdx_iff_pairwise.mpr ((hperm.pairwise_iff ?_).mpr (unambIdx_iff_pairwise.mp h1)), hf.nodup_iff.mpr h2,
    fun q hq hk t hl hc => h3 q (hperm.mem_iff.mp hq) hk t hl (hf.mem_iff.mp hc)⟩
  exact fun hxy hky hkx t hly hlx => hxy hkx hky t hlx hly

theorem perm_supplierMap_isOk {provs0' provs0 : List PSpec} (hperm : provs0'.Perm provs0) :
    (∃ r', supplierMap provs0' = .ok r') ↔ (∃ r, supplierMap provs0 = .ok r) := by
  rw [supplierMap_isOk_iff, supplierMap_isOk_iff]
  exact ⟨fun ⟨h1, h2⟩ => ⟨h1.perm hperm.symm, h2.perm hperm.symm⟩, fun ⟨h1, h2⟩ => ⟨h1.perm hperm, h2.perm hperm⟩⟩

/-- `perm_supplierMap_isOk` for declarations with distinct labels (the hypothesis is not used) -/
theorem perm_supplierMap_ok {provs0' provs0 : List PSpec} (hperm : provs0'.Perm provs0)
    (hnd : (provs0.map (·.decl)).Nodup) :
    (∃ r', supplierMap provs0' = .ok r') ↔ (∃ r, supplierMap provs0 = .ok r) :=
  perm_supplierMap_isOk hperm

theorem perm_supplierMap_ok_or_orphan {provs0' provs0 provs : List PSpec} {sup : SupMap} (hperm : provs0'.Perm provs0)
    (hnd : (provs0.map (·.decl)).Nodup) (hs : supplierMap provs0 = .ok (provs, sup)) :
    ∃ r', supplierMap provs0' = .ok r' :=
  (perm_supplierMap_ok hperm hnd).mpr ⟨_, hs⟩

end KV
