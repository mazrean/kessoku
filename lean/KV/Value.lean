import KV.SupShape
import KV.Eval
import KV.DataFlow
/-! C02: whatever value the planned graph wires out of its return node is the reference evaluation (`Eval`) of the
    requested type key (`newGraph2_value`); such a value exists, since the wiring is total and acyclic
    (`newGraph2_value_exists`), and is the only one (`eval_unique`).  The Async marking of the providers influences
    neither acceptance, nor the error, nor the graph (`async_irrelevant_gen`). -/
namespace KV

/-- the requirement list of node `n` of a graph (none for argument nodes) -/
def greqs (g : Graph) : Nat → List Nat :=
  fun n => if (g.nodes.getD n default).isArg then [] else (g.provs.getD (g.nodes.getD n default).prov default).requires

/-- "the value returned by the injector planned as `g` is `v`" -/
def GraphVal (g : Graph) (v : Val) : Prop := NVal g.nodes g.edges (greqs g) g.retNode g.retIdx v

/-- **C02 at the level of `newGraph2`.**  This covers the case "`ret` has no supplier", where the graph is the single
    argument node; `plan` itself refuses that case later, in `buildStmts2`, with `noInitial`. -/
theorem newGraph2_value {provs0 : List PSpec} {ret : Nat} {g : Graph} {provs : List PSpec} {sup : SupMap}
    (hg : newGraph2 provs0 ret = .ok g) (hs : supplierMap provs0 = .ok (provs, sup)) :
    g.provs = provs ∧ ∀ v, GraphVal g v → Eval provs sup ret v := by
  rw [newGraph2_of_supplierMap ret hs] at hg
  rcases graphOf_cases (supplierMap_supOK hs) hg with ⟨hlook, rfl⟩ | ⟨rp, ri, st, hlook, rfl, hf, _, rfl⟩
  · refine ⟨rfl, fun v hv => ?_⟩
    cases hv with
    | arg ha => exact Eval.arg hlook
    | app hna _ => cases hna
  · exact ⟨rfl, fun v hv => bfs_value_is_reference (supplierMap_supOK hs) rp (n := 0) (gi := ri) hv ret
      (Or.inl ⟨rp, hlook, by rw [hf.root.2], by rw [hf.root.2]⟩)⟩

theorem plan_value {provs0 : List PSpec} {ret : Nat} {p : PlanOut} {provs : List PSpec} {sup : SupMap}
    (hp : plan provs0 ret = .ok p) (hs : supplierMap provs0 = .ok (provs, sup)) :
    p.g.provs = provs ∧ ∀ v, GraphVal p.g v → Eval provs sup ret v :=
  newGraph2_value (plan_ok hp).1 hs

theorem greqs_length {g : Graph} (hg : GWF g) {m : Nat} (hm : m < g.nodes.length) :
    (greqs g m).length = (g.rev.getD m []).length := by
  rw [← hg.slotsEq m hm]
  unfold greqs nodeSlots
  rw [List.getElem?_eq_getElem hm, List.getD_eq_getElem _ hm]
  simp only
  cases (g.nodes[m]).isArg <;> rfl

/-- the consumer of an edge is a provider node: argument nodes have no slots -/
theorem GWF.edge_dst_provider {g : Graph} (hg : GWF g) {n : Nat} {e : Edge} (he : e ∈ g.edges.getD n []) :
    e.dst < g.nodes.length ∧ isArgNode g e.dst = false := by
  have hml : e.dst < g.nodes.length := hg.dstLt n e he
  refine ⟨hml, Bool.eq_false_iff.mpr fun hia => ?_⟩
  have hslot := hg.slotLt n e he
  rw [← greqs_length hg hml, greqs, show (g.nodes.getD e.dst default).isArg = true from hia, if_pos rfl] at hslot
  cases hslot

theorem nslots_exists {nodes : List Node} {edges : List (List Edge)} {reqs : Nat → List Nat} {m : Nat}
    (h : ∀ i, i < (reqs m).length →
      ∃ n2 e v, e ∈ edges.getD n2 [] ∧ e.dst = m ∧ e.slot = i ∧ NVal nodes edges reqs n2 e.src v) :
    ∀ k i, i + k = (reqs m).length → ∃ vs, NSlots nodes edges reqs m i vs := by
  intro k
  induction k with
  | zero => intro i hi; exact ⟨[], NSlots.done hi⟩
  | succ k ih =>
    intro i hi
    have hil : i < (reqs m).length := hi ▸ Nat.lt_add_of_pos_right (Nat.succ_pos k)
    obtain ⟨n2, e, v, he, hd, hsl, hv⟩ := h i hil
    obtain ⟨vs, hvs⟩ := ih (i + 1) ((Nat.add_right_comm i 1 k).trans hi)
    exact ⟨v :: vs, NSlots.slot hil he hd hsl hv hvs⟩

/-- every node of the Kahn order has a wired value, for every result group it has: every slot is fed by a node
    that stands earlier in the order -/
theorem nval_exists {g : Graph} (hg : GWF2 g) (hs : SoundL g (topoOrder g))
    (hlt : ∀ m ∈ topoOrder g, m < g.nodes.length) :
    ∀ m ∈ topoOrder g, ∀ gi, ((g.nodes.getD m default).isArg = true → gi = 0) →
      ∃ v, NVal g.nodes g.edges (greqs g) m gi v := by
  refine List.forall_mem_of_prefixes fun pre m post hsplit ih gi hgi => ?_
  cases harg : (g.nodes.getD m default).isArg with
  | true => rw [hgi harg]; exact ⟨_, NVal.arg harg⟩
  | false =>
    have hm : m < g.nodes.length := hlt m (hsplit ▸ List.mem_append_right _ (List.mem_cons_self ..))
    refine (nslots_exists (fun i hi => ?_) (greqs g m).length 0 (Nat.zero_add _)).elim fun vs hvs =>
      ⟨_, NVal.app harg hvs⟩
    rw [greqs_length hg.toGWF hm] at hi
    obtain ⟨n, hnpre, e, he, hed, hes⟩ := hs pre m post hsplit i hi
    have hsrc := hg.srcLt n e he (hlt n (hsplit ▸ List.mem_append_left _ hnpre))
    obtain ⟨v, hv⟩ := ih n hnpre e.src fun ha => by
      rw [show isArgNode g n = true from ha, if_pos rfl] at hsrc; omega
    exact ⟨n, e, v, he, hed, hes, hv⟩

/-- the wiring of the graph determines a value of the return node, provided the return node is in the Kahn order -/
theorem newGraph2_value_exists {provs0 : List PSpec} {ret : Nat} {g : Graph}
    (hg : newGraph2 provs0 ret = .ok g) (hret : g.retNode ∈ topoOrder g) : ∃ v, GraphVal g v := by
  have hgw := newGraph2_gwf hg
  obtain ⟨hs, _, hlt⟩ := topoOrder_sound hgw.toGWF
  refine nval_exists hgw hs hlt g.retNode hret g.retIdx fun ha => ?_
  -- an argument return node is the single node of a graph whose requested type nobody supplies: read at group 0
  obtain ⟨provs, sup, hsup, hgo⟩ := newGraph2_graphOf hg
  rcases graphOf_cases hsup hgo with ⟨_, rfl⟩ | ⟨rp, ri, st, _, _, hf, _, rfl⟩
  · rfl
  · change (st.nodes.getD 0 default).isArg = true at ha
    rw [hf.root.2] at ha
    cases ha

theorem plan_value_exists {provs0 : List PSpec} {ret : Nat} {p : PlanOut} (hp : plan provs0 ret = .ok p) :
    ∃ v, GraphVal p.g v :=
  newGraph2_value_exists (plan_ok hp).1 (plan_planOK hp).retIn

/-- `plan_value_exists` and `plan_value` with the requirement function spelled out -/
theorem plan_value_exists' {provs0 : List PSpec} {ret : Nat} {p : PlanOut} {provs : List PSpec} {sup : SupMap}
    (hp : plan provs0 ret = .ok p) (hs : supplierMap provs0 = .ok (provs, sup)) :
    ∃ v, NVal p.g.nodes p.g.edges (fun n => if (p.g.nodes.getD n default).isArg then [] else
        (provs.getD (p.g.nodes.getD n default).prov default).requires) p.g.retNode p.g.retIdx v ∧
      Eval provs sup ret v := by
  obtain ⟨v, hv⟩ := plan_value_exists hp
  obtain ⟨rfl, h2⟩ := plan_value hp hs
  exact ⟨v, hv, h2 v hv⟩

theorem eval_evalL_congr {provs provs' : List PSpec} {sup : SupMap}
    (h : ∀ p, (provs.getD p default).requires = (provs'.getD p default).requires) :
    (∀ {t : Nat} {v : Val}, Eval provs sup t v → Eval provs' sup t v) ∧
    (∀ {ts : List Nat} {vs : List Val}, EvalL provs sup ts vs → EvalL provs' sup ts vs) :=
  Eval.induct .arg (fun {_ p _ _} hl ih => .app hl (h p ▸ ih)) .nil .cons

theorem eval_congr {provs provs' : List PSpec} {sup : SupMap}
    (h : ∀ p, (provs.getD p default).requires = (provs'.getD p default).requires) :
    ∀ {t : Nat} {v : Val}, Eval provs sup t v → Eval provs' sup t v :=
  (eval_evalL_congr h).1

theorem evalL_congr {provs provs' : List PSpec} {sup : SupMap}
    (h : ∀ p, (provs.getD p default).requires = (provs'.getD p default).requires) :
    ∀ {ts : List Nat} {vs : List Val}, EvalL provs sup ts vs → EvalL provs' sup ts vs :=
  (eval_evalL_congr h).2

theorem eval_evalL_unique {provs : List PSpec} {sup : SupMap} :
    (∀ {t : Nat} {v : Val}, Eval provs sup t v → ∀ v', Eval provs sup t v' → v = v') ∧
    (∀ {ts : List Nat} {vs : List Val}, EvalL provs sup ts vs → ∀ vs', EvalL provs sup ts vs' → vs = vs') := by
  refine Eval.induct ?_ ?_ ?_ ?_
  · intro t hl v' h'
    cases h' with
    | arg _ => rfl
    | app hl' _ => rw [hl] at hl'; cases hl'
  · intro t p gi vs hl ih v' h'
    cases h' with
    | arg hl' => rw [hl] at hl'; cases hl'
    | app hl' hs' => rw [hl] at hl'; cases hl'; rw [ih _ hs']
  · intro vs' h'; cases h'; rfl
  · intro t ts v vs ih1 ih2 vs' h'
    cases h' with
    | cons h1' h2' => rw [ih1 _ h1', ih2 _ h2']

theorem eval_unique {provs : List PSpec} {sup : SupMap} :
    ∀ {t : Nat} {v v' : Val}, Eval provs sup t v → Eval provs sup t v' → v = v' :=
  fun h h' => eval_evalL_unique.1 h _ h'

theorem evalL_unique {provs : List PSpec} {sup : SupMap} :
    ∀ {ts : List Nat} {vs vs' : List Val}, EvalL provs sup ts vs → EvalL provs sup ts vs' → vs = vs' :=
  fun h h' => eval_evalL_unique.2 h _ h'

theorem plan_value_spec {provs0 : List PSpec} {ret : Nat} {p : PlanOut} {provs : List PSpec} {sup : SupMap}
    (hp : plan provs0 ret = .ok p) (hs : supplierMap provs0 = .ok (provs, sup)) :
    ∃ v, GraphVal p.g v ∧ Eval provs sup ret v ∧ (∀ v', GraphVal p.g v' → v' = v) ∧
      (∀ v', Eval provs sup ret v' → v' = v) := by
  obtain ⟨v, hv⟩ := plan_value_exists hp
  have hE := (plan_value hp hs).2
  exact ⟨v, hv, hE v hv, fun v' hv' => eval_unique (hE v' hv') (hE v hv), fun v' hv' => eval_unique hv' (hE v hv)⟩

/-- forget the Async marking of a provider -/
def eraseAsync (q : PSpec) : PSpec := { q with isAsync := false }

/-- mark provider `i` Async iff `f i` -/
def setAsync (f : Nat → Bool) (provs : List PSpec) : List PSpec :=
  provs.mapIdx (fun i q => { q with isAsync := f i })

/-- two providers agree on every field except `isAsync` -/
def SameButAsync (q q' : PSpec) : Prop :=
  q.kind = q'.kind ∧ q.requires = q'.requires ∧ q.provides = q'.provides ∧ q.isErr = q'.isErr ∧
  q.structTy = q'.structTy ∧ q.fields = q'.fields ∧ q.fieldName = q'.fieldName ∧ q.decl = q'.decl

theorem eraseAsync_eq_iff (q q' : PSpec) : eraseAsync q = eraseAsync q' ↔ SameButAsync q q' := by
  cases q; cases q'
  simp only [eraseAsync, SameButAsync, PSpec.mk.injEq, true_and]

theorem setAsync_erase (f : Nat → Bool) (provs : List PSpec) :
    (setAsync f provs).map eraseAsync = provs.map eraseAsync := by
  apply List.ext_getElem?
  intro i
  simp only [setAsync, List.getElem?_map, List.getElem?_mapIdx]
  cases provs[i]? <;> rfl

theorem setAsync_length (f : Nat → Bool) (provs : List PSpec) : (setAsync f provs).length = provs.length := by
  simp only [setAsync, List.length_mapIdx]

theorem sameButAsync_of_erase_eq {ps qs : List PSpec} (h : ps.map eraseAsync = qs.map eraseAsync) :
    ps.length = qs.length ∧ ∀ i, SameButAsync (ps.getD i default) (qs.getD i default) := by
  refine ⟨by simpa using congrArg List.length h, fun i => (eraseAsync_eq_iff _ _).mp ?_⟩
  rw [← List.getD_map eraseAsync, ← List.getD_map eraseAsync, h]

theorem requires_of_erase_eq {ps qs : List PSpec} (h : ps.map eraseAsync = qs.map eraseAsync) (i : Nat) :
    (ps.getD i default).requires = (qs.getD i default).requires :=
  ((sameButAsync_of_erase_eq h).2 i).2.1

/-- what erasing does to the result of the supplier map -/
def eraseR (r : List PSpec × SupMap) : List PSpec × SupMap := (r.1.map eraseAsync, r.2)

/-- `eraseAsync` keeps the shape, and the synthetic field providers are not Async anyway -/
theorem supplierMap_erase (ps : List PSpec) :
    supplierMap (ps.map eraseAsync) = (supplierMap ps).map eraseR := by
  rw [supplierMap_map (f := eraseAsync) fun _ => ⟨rfl, rfl, rfl, rfl, rfl⟩]
  cases hs : supplierMap ps with
  | error e => rfl
  | ok r =>
    obtain ⟨_, ord, _, _, hr, _⟩ := supplierMap_closed (provs := r.1) (sup := r.2) hs
    have hfix : (fieldProvsOf ord).map eraseAsync = fieldProvsOf ord :=
      (List.map_congr_left fun fp hfp => by obtain ⟨_, _, _, _, rfl⟩ := mem_fieldProvsOf hfp; rfl).trans (List.map_id _)
    simp only [Except.map, eraseR, hr, List.drop_left, List.map_append, hfix]

/-- what erasing does to a graph: only the provider table changes -/
def eraseG (g : Graph) : Graph := { g with provs := g.provs.map eraseAsync }

theorem graphOf_erase (provs : List PSpec) (sup : SupMap) (ret : Nat) :
    graphOf (provs.map eraseAsync) sup ret = (graphOf provs sup ret).map eraseG := by
  have hfuel : bfsFuel (provs.map eraseAsync) = bfsFuel provs := by
    simp only [bfsFuel, List.length_map, List.foldl_map]; rfl
  unfold graphOf
  rw [hfuel]
  cases sup.lookup ret with
  | none => rfl
  | some r =>
    simp only [bfsLoop_congr (requires_of_erase_eq (ps := provs.map eraseAsync) (qs := provs) (by rw [List.map_map]; rfl))]
    generalize bfsLoop provs sup (bfsFuel provs) (bfsInit r.1) = st
    cases st.queue.isEmpty
    · rfl
    · cases detectCycles st.edges st.nodes.length <;> rfl

theorem newGraph2_erase (ps : List PSpec) (ret : Nat) :
    newGraph2 (ps.map eraseAsync) ret = (newGraph2 ps ret).map eraseG := by
  rw [newGraph2_factor, newGraph2_factor, supplierMap_erase]
  cases supplierMap ps with
  | error e => rfl
  | ok r => exact graphOf_erase r.1 r.2 ret

theorem async_irrelevant_gen {ps qs : List PSpec} (h : ps.map eraseAsync = qs.map eraseAsync) (ret : Nat) :
    (∃ e, newGraph2 ps ret = .error e ∧ newGraph2 qs ret = .error e) ∨
    (∃ g g', newGraph2 ps ret = .ok g ∧ newGraph2 qs ret = .ok g' ∧
      g.nodes = g'.nodes ∧ g.edges = g'.edges ∧ g.rev = g'.rev ∧ g.retNode = g'.retNode ∧ g.retIdx = g'.retIdx ∧
      g.provs.map eraseAsync = g'.provs.map eraseAsync) := by
  have hh : (newGraph2 ps ret).map eraseG = (newGraph2 qs ret).map eraseG := by
    rw [← newGraph2_erase, ← newGraph2_erase, h]
  rcases Except.map_eq_map hh with he | ⟨g, g', h1, h2, hgg⟩
  · exact Or.inl he
  · cases g; cases g'
    simp only [eraseG, Graph.mk.injEq] at hgg
    obtain ⟨hp, hn, he, hr, hrn, hri⟩ := hgg
    exact Or.inr ⟨_, _, h1, h2, hn, he, hr, hrn, hri, hp⟩

theorem async_irrelevant (f : Nat → Bool) (provs0 : List PSpec) (ret : Nat) :
    (∃ e, newGraph2 (setAsync f provs0) ret = .error e ∧ newGraph2 provs0 ret = .error e) ∨
    (∃ g' g, newGraph2 (setAsync f provs0) ret = .ok g' ∧ newGraph2 provs0 ret = .ok g ∧
      g'.nodes = g.nodes ∧ g'.edges = g.edges ∧ g'.rev = g.rev ∧ g'.retNode = g.retNode ∧ g'.retIdx = g.retIdx ∧
      g'.provs.length = g.provs.length ∧ ∀ i, SameButAsync (g'.provs.getD i default) (g.provs.getD i default)) := by
  rcases async_irrelevant_gen (setAsync_erase f provs0) ret with h | ⟨g', g, h1, h2, hn, he, hr, hrn, hri, hp⟩
  · exact Or.inl h
  · obtain ⟨hl, hs⟩ := sameButAsync_of_erase_eq hp
    exact Or.inr ⟨g', g, h1, h2, hn, he, hr, hrn, hri, hl, hs⟩

/-- the value wired by the graph is the same for every Async marking -/
theorem async_value_irrelevant (f : Nat → Bool) {provs0 : List PSpec} {ret : Nat} {g g' : Graph}
    (hg : newGraph2 provs0 ret = .ok g) (hg' : newGraph2 (setAsync f provs0) ret = .ok g') (v : Val) :
    GraphVal g' v ↔ GraphVal g v := by
  rcases async_irrelevant_gen (setAsync_erase f provs0) ret with
    ⟨e, h1, _⟩ | ⟨a, b, h1, h2, hn, he, _, hrn, hri, hp⟩
  · rw [hg'] at h1; cases h1
  · rw [hg'] at h1; rw [hg] at h2
    cases h1; cases h2
    have hreqs : greqs g' = greqs g := funext fun n => by unfold greqs; rw [hn, requires_of_erase_eq hp]
    unfold GraphVal
    rw [hreqs, hn, he, hrn, hri]

theorem async_supplierMap (f : Nat → Bool) {provs0 provs : List PSpec} {sup : SupMap}
    (hs : supplierMap provs0 = .ok (provs, sup)) :
    ∃ provs', supplierMap (setAsync f provs0) = .ok (provs', sup) ∧
      provs'.map eraseAsync = provs.map eraseAsync ∧ ∀ t v, Eval provs' sup t v ↔ Eval provs sup t v := by
  have h : (supplierMap (setAsync f provs0)).map eraseR = (supplierMap provs0).map eraseR := by
    rw [← supplierMap_erase, ← supplierMap_erase, setAsync_erase]
  rcases Except.map_eq_map h with ⟨e, _, he⟩ | ⟨⟨provs', sup'⟩, r, h1, h2, hrr⟩
  · rw [hs] at he; cases he
  · rw [hs] at h2; cases h2
    obtain ⟨hp, rfl⟩ := Prod.mk.inj hrr
    exact ⟨provs', h1, hp, fun t v =>
      ⟨eval_congr (requires_of_erase_eq hp), eval_congr fun p => (requires_of_erase_eq hp p).symm⟩⟩

theorem plan_value_async (f : Nat → Bool) {provs0 : List PSpec} {ret : Nat} {p' : PlanOut} {provs : List PSpec}
    {sup : SupMap} (hp : plan (setAsync f provs0) ret = .ok p') (hs : supplierMap provs0 = .ok (provs, sup))
    (v : Val) (hv : GraphVal p'.g v) : Eval provs sup ret v := by
  obtain ⟨provs', hs', _, hE⟩ := async_supplierMap f hs
  exact (hE ret v).mp ((plan_value hp hs').2 v hv)

/-- `p0 : (5) → 1`, `p1 : (1) → 2` (Async), struct provider `p2` of type `2` with one field `F : 3` -/
def exProvs : List PSpec :=
  [ { requires := [5], provides := [[1]], decl := 0 },
    { requires := [1], provides := [[2]], isAsync := true, decl := 1 },
    { kind := 1, structTy := 2, fields := [("F", 3)], decl := 2 } ]

def exSup : SupMap := [(1, (0, 0)), (2, (1, 0)), (3, (3, 0))]

def exProvs' : List PSpec :=
  exProvs ++ [{ kind := 2, requires := [2], provides := [[3]], structTy := 2, fieldName := "F", decl := 2 }]

theorem exProvs_sup : supplierMap exProvs = .ok (exProvs', exSup) := by rfl

example : supplierMap exProvs = .ok (exProvs', exSup) := exProvs_sup

theorem exProvs_accepted : ∃ p, plan exProvs 3 = .ok p := RefuseExamples.exists_ok_of_isOk (by decide)

example : ∃ p, plan exProvs 3 = .ok p := exProvs_accepted

example : (match newGraph2 exProvs 3 with
    | .ok g => g.nodes.length == 4 && g.retNode == 0 && g.retIdx == 0
    | .error _ => false) = true := by decide

/-- the reference evaluation of key `3`: field `F` of the struct made by `p1` from the result of `p0` applied to
    the injector argument of type `5` -/
theorem exEval : Eval exProvs' exSup 3 (.app 3 0 [.app 1 0 [.app 0 0 [.arg 5]]]) :=
  .app (p := 3) rfl (.cons (.app (p := 1) rfl (.cons (.app (p := 0) rfl (.cons (.arg rfl) .nil)) .nil)) .nil)

/-- ... and it is the value the planned graph wires, whatever the Async marking -/
example (f : Nat → Bool) (p : PlanOut) (hp : plan (setAsync f exProvs) 3 = .ok p) (v : Val) (hv : GraphVal p.g v) :
    v = .app 3 0 [.app 1 0 [.app 0 0 [.arg 5]]] :=
  eval_unique (plan_value_async f hp exProvs_sup v hv) exEval

example : ∃ p, plan exProvs 3 = .ok p ∧ GraphVal p.g (.app 3 0 [.app 1 0 [.app 0 0 [.arg 5]]]) := by
  obtain ⟨p, hp⟩ := exProvs_accepted
  obtain ⟨v, hv, _, _, hu⟩ := plan_value_spec hp exProvs_sup
  rw [hu _ exEval]
  exact ⟨p, hp, hv⟩

/-- an unsupplied key: the graph is the single argument node and the wired value is the argument -/
example : ∃ g, newGraph2 exProvs 7 = .ok g ∧ GraphVal g (.arg 7) :=
  ⟨_, rfl, NVal.arg rfl⟩

example : ∃ p, plan (setAsync (fun i => i == 0) exProvs) 3 = .ok p :=
  RefuseExamples.exists_ok_of_isOk (by decide +kernel)

end KV

#print axioms KV.newGraph2_factor
#print axioms KV.plan_value
#print axioms KV.plan_value_exists
#print axioms KV.plan_value_exists'
#print axioms KV.newGraph2_value
#print axioms KV.newGraph2_value_exists
#print axioms KV.plan_value_spec
#print axioms KV.async_irrelevant_gen
#print axioms KV.async_irrelevant
#print axioms KV.async_value_irrelevant
#print axioms KV.async_supplierMap
#print axioms KV.plan_value_async
