import KV.EmittedF
import KV.T1FExec
/-! Negation witnesses for the known findings K6 (C06), K7 (C07), K8 (C08).  Each is a concrete program **that is the
emission of a concrete accepted declaration** (`decide +kernel` evaluates `KV.plan` and `KV.emittedF`), a concrete
run given as a `T1F.Reach` derivation built step by step, and (K7, K8) the stuckness claim from
`T1F.stuck_of_not_ready`: every running, spawned thread is held back.

Type keys: `0 = context.Context`; provider `i` of a declaration provides type `i + 1`. -/
namespace KV.Witness
open T1F

/-- what the kernel evaluates: threads, `retErr` and the side condition of the emitted program -/
def planSummary (provs : List PSpec) (ret : Nat) : Option (List (List Op) × Bool × Bool) :=
  match plan provs ret with
  | .ok p => some ((emittedF p).threads, (emittedF p).retErr, AllWaitsCtxAware p)
  | .error _ => none

theorem planSummary_spec {provs : List PSpec} {ret : Nat} {thr : List (List Op)} {re a : Bool}
    (h : planSummary provs ret = some (thr, re, a)) :
    ∃ p, plan provs ret = .ok p ∧ emittedF p = ⟨thr, re⟩ ∧ AllWaitsCtxAware p = a := by
  unfold planSummary at h
  split at h
  · rename_i p hp
    cases h
    exact ⟨p, hp, rfl, rfl⟩
  · cases h

/-! ## K6 — an errgroup cancellation is reported as `ctx.Err()` although the caller never cancelled

Declaration: `A` async, `B` async returning `error`, `C(A, B)`; the injector returns `(C, error)`.
`B` runs in the goroutine, `A` and `C` in the main thread; `C` waits (ctx-aware) for `B`'s channel. -/

def provsK6 : List PSpec :=
  [{ provides := [[1]], isAsync := true }, { provides := [[2]], isAsync := true, isErr := true },
   { requires := [1, 2], provides := [[3]] }]

def K6 : Prog :=
  ⟨[[.spawn 1, .enter 1 [], .exit 1 [0] false, .wait 0 1 true, .enter 0 [0, 1], .exit 0 [2] false, .egwait, .ret 2],
    [.enter 2 [], .exit 2 [1] true, .close 2 1]], true⟩

theorem K6_is_emitted : ∃ p, plan provsK6 3 = .ok p ∧ emittedF p = K6 ∧ AllWaitsCtxAware p = true :=
  planSummary_spec (by decide +kernel)

/-- only `B` (node 2) fails -/
def envK6 : Env := ⟨fun o => o == 2⟩

def sK6 : St :=
  { pcs := [3, 1], fin := [some (.err .ctx), some (.err (.prov 2))], egErr := some (.prov 2), egCanc := true,
    callerCanc := false, result := some (some .ctx) }

theorem K6_reach : Reach K6 envK6 sK6 := by
  have h0 : Reach K6 envK6 ⟨[0, 0], [none, none], none, false, false, none⟩ := Reach.init
  -- main: go func
  have h1 : Reach K6 envK6 ⟨[1, 0], [none, none], none, false, false, none⟩ :=
    Reach.step h0 (Step.spawn (g := 1) rfl rfl)
  -- goroutine: call B
  have h2 : Reach K6 envK6 ⟨[1, 1], [none, none], none, false, false, none⟩ :=
    Reach.step h1 (Step.enter (t := 1) (o := 2) (args := []) (by decide) rfl (Or.inr ⟨0, rfl, by decide⟩) rfl)
  -- B fails: the errgroup records the error and cancels the derived context
  have h3 : Reach K6 envK6 ⟨[1, 1], [none, some (.err (.prov 2))], some (.prov 2), true, false, none⟩ :=
    Reach.step h2 (Step.exitFail (t := 1) (o := 2) (rets := [1]) (by decide) rfl (Or.inr ⟨0, rfl, by decide⟩) rfl rfl)
  -- main: A runs and returns
  have h4 : Reach K6 envK6 ⟨[2, 1], [none, some (.err (.prov 2))], some (.prov 2), true, false, none⟩ :=
    Reach.step h3 (Step.enter (t := 0) (o := 1) (args := []) (by decide) rfl (Or.inl rfl) rfl)
  have h5 : Reach K6 envK6 ⟨[3, 1], [none, some (.err (.prov 2))], some (.prov 2), true, false, none⟩ :=
    Reach.step h4 (Step.exitOk (t := 0) (o := 1) (rets := [0]) (f := false) (by decide) rfl (Or.inl rfl) rfl rfl)
  -- main: select { <-bCh ; <-ctx.Done(): return ctx.Err() } takes the second branch
  exact Reach.step h5 (Step.waitCtx (t := 0) (o := 0) (c := 1) (by decide) rfl (Or.inl rfl) rfl rfl)

/-- **K6**: a reachable state of an accepted declaration's program in which the injector returned the context
    error, the caller never cancelled, and the provider that did fail was `B` — the returned error is not the
    failed provider's error (the exception clause of `C06_identity_partial` is really needed). -/
theorem K6_witness :
    Reach K6 envK6 sK6 ∧ sK6.result = some (some .ctx) ∧ sK6.callerCanc = false ∧
    finOf sK6 1 = some (.err (.prov 2)) ∧ ¬ (∃ o, Err.ctx = .prov o ∧ envK6.fails o = true) :=
  ⟨K6_reach, rfl, rfl, rfl, fun ⟨_, h, _⟩ => by cases h⟩

/-! ## K7 — without an `error` result the main thread's waits are plain receives: it can block forever

Declaration: `A` async, `B(A)` async, `C(A)` async, `D(A, B, C)`; the injector returns `D` only (no `error`).
`A`, `B`, `D` are in the main thread, `C` in the goroutine; `C` waits (ctx-aware) for `A`'s channel, `D` waits
(plain receive — there is no error to return) for `C`'s channel. -/

def provsK7 : List PSpec :=
  [{ provides := [[1]], isAsync := true }, { requires := [1], provides := [[2]], isAsync := true },
   { requires := [1], provides := [[3]], isAsync := true }, { requires := [1, 2, 3], provides := [[4]] }]

def K7 : Prog :=
  ⟨[[.spawn 1, .enter 1 [], .exit 1 [0] false, .close 1 0, .enter 2 [0], .exit 2 [1] false, .wait 0 2 false,
     .enter 0 [0, 1, 2], .exit 0 [3] false, .egwait, .ret 3],
    [.wait 3 0 true, .enter 3 [0], .exit 3 [2] false, .close 3 2]], false⟩

theorem K7_is_emitted : ∃ p, plan provsK7 4 = .ok p ∧ emittedF p = K7 ∧ AllWaitsCtxAware p = false :=
  planSummary_spec (by decide +kernel)

def sK7 : St :=
  { pcs := [6, 0], fin := [none, some (.err .ctx)], egErr := some .ctx, egCanc := true,
    callerCanc := true, result := none }

theorem K7_reach (env : Env) : Reach K7 env sK7 := by
  have h0 : Reach K7 env ⟨[0, 0], [none, none], none, false, false, none⟩ := Reach.init
  have h1 : Reach K7 env ⟨[1, 0], [none, none], none, false, false, none⟩ :=
    Reach.step h0 (Step.spawn (g := 1) rfl rfl)
  -- the caller cancels
  have h2 : Reach K7 env ⟨[1, 0], [none, none], none, false, true, none⟩ := Reach.step h1 Step.cancel
  -- the goroutine leaves through its ctx-aware wait for A
  have h3 : Reach K7 env ⟨[1, 0], [none, some (.err .ctx)], some .ctx, true, true, none⟩ :=
    Reach.step h2 (Step.waitCtx (t := 1) (o := 3) (c := 0) (by decide) rfl (Or.inr ⟨0, rfl, by decide⟩) rfl rfl)
  -- main: A, close(aCh), B
  have h4 : Reach K7 env ⟨[2, 0], [none, some (.err .ctx)], some .ctx, true, true, none⟩ :=
    Reach.step h3 (Step.enter (t := 0) (o := 1) (args := []) (by decide) rfl (Or.inl rfl) rfl)
  have h5 : Reach K7 env ⟨[3, 0], [none, some (.err .ctx)], some .ctx, true, true, none⟩ :=
    Reach.step h4 (Step.exitOk (t := 0) (o := 1) (rets := [0]) (f := false) (by decide) rfl (Or.inl rfl) rfl rfl)
  have h6 : Reach K7 env ⟨[4, 0], [none, some (.err .ctx)], some .ctx, true, true, none⟩ :=
    Reach.step h5 (Step.close (t := 0) (o := 1) (c := 0) (by decide) rfl (Or.inl rfl) rfl)
  have h7 : Reach K7 env ⟨[5, 0], [none, some (.err .ctx)], some .ctx, true, true, none⟩ :=
    Reach.step h6 (Step.enter (t := 0) (o := 2) (args := [0]) (by decide) rfl (Or.inl rfl) rfl)
  exact Reach.step h7 (Step.exitOk (t := 0) (o := 2) (rets := [1]) (f := false) (by decide) rfl (Or.inl rfl) rfl rfl)

theorem K7_not_closed : ¬ closed K7 sK7 2 := fun h => absurd ((closedB_iff _ _ _).mpr h) (by decide)

/-- the goroutine has ended; the main thread sits in a plain receive from `C`'s channel, which nobody closes -/
theorem K7_held : ∀ t, t < K7.threads.length → running sK7 t → spawned K7 sK7 t →
    ¬ Ready K7 sK7 t (opAt K7 t (pc sK7 t))
  | 0, _, _, _ => fun h => h.elim K7_not_closed (fun h => Bool.noConfusion h.1)
  | 1, _, hrun, _ => absurd hrun (by unfold running; decide)
  | _ + 2, htl, _, _ => absurd htl (by simp [K7])

/-- **K7**: a reachable state of an accepted declaration's program (for every failure set `env`) in which the
    injector has not returned, and never will: every step leaves the state unchanged, there is no `Progress`.
    So `C06_terminates` / `C07_with_error` are false without `AllWaitsCtxAware` (here: without an `error` result). -/
theorem K7_witness (env : Env) :
    Reach K7 env sK7 ∧ running sK7 0 ∧ sK7.result = none ∧ (∀ s', Step K7 env sK7 s' → s' = sK7) ∧
    ¬ Progress K7 env sK7 :=
  have ⟨h1, h2⟩ := stuck_of_not_ready (env := env) K7_held
  ⟨K7_reach env, rfl, rfl, h1, h2⟩

/-! ## K8 — a failing main-thread provider returns without cancelling: a goroutine leaks

Declaration: `S` returning `error`, `A(S)` async, `B(S)` async, `C(A, B)`; the injector returns `(C, error)`.
`S` and `A` are in the main thread, `B` and `C` in the goroutine; `B` waits (ctx-aware) for `S`'s channel. -/

def provsK8 : List PSpec :=
  [{ provides := [[1]], isErr := true }, { requires := [1], provides := [[2]], isAsync := true },
   { requires := [1], provides := [[3]], isAsync := true }, { requires := [2, 3], provides := [[4]] }]

def K8 : Prog :=
  ⟨[[.spawn 1, .enter 3 [], .exit 3 [0] true, .close 3 0, .enter 1 [0], .exit 1 [1] false, .close 1 1, .egwait, .ret 3],
    [.wait 2 0 true, .enter 2 [0], .exit 2 [2] false, .wait 0 1 true, .enter 0 [1, 2], .exit 0 [3] false]], true⟩

theorem K8_is_emitted : ∃ p, plan provsK8 4 = .ok p ∧ emittedF p = K8 ∧ AllWaitsCtxAware p = true :=
  planSummary_spec (by decide +kernel)

/-- only `S` (node 3) fails -/
def envK8 : Env := ⟨fun o => o == 3⟩

def sK8 : St :=
  { pcs := [2, 0], fin := [some (.err (.prov 3)), none], egErr := none, egCanc := false,
    callerCanc := false, result := some (some (.prov 3)) }

theorem K8_reach : Reach K8 envK8 sK8 := by
  have h0 : Reach K8 envK8 ⟨[0, 0], [none, none], none, false, false, none⟩ := Reach.init
  have h1 : Reach K8 envK8 ⟨[1, 0], [none, none], none, false, false, none⟩ :=
    Reach.step h0 (Step.spawn (g := 1) rfl rfl)
  have h2 : Reach K8 envK8 ⟨[2, 0], [none, none], none, false, false, none⟩ :=
    Reach.step h1 (Step.enter (t := 0) (o := 3) (args := []) (by decide) rfl (Or.inl rfl) rfl)
  -- S fails: `return zero, err` — the derived context is not cancelled
  exact Reach.step h2 (Step.exitFail (t := 0) (o := 3) (rets := [0]) (by decide) rfl (Or.inl rfl) rfl rfl)

theorem K8_not_closed : ¬ closed K8 sK8 0 := fun h => absurd ((closedB_iff _ _ _).mpr h) (by decide)

/-- the main thread has ended; the goroutine waits (ctx-aware) for `S`'s channel, which nobody closes, and the
    derived context is not done -/
theorem K8_held : ∀ t, t < K8.threads.length → running sK8 t → spawned K8 sK8 t →
    ¬ Ready K8 sK8 t (opAt K8 t (pc sK8 t))
  | 0, _, hrun, _ => absurd hrun (by unfold running; decide)
  | 1, _, _, _ => fun h => h.elim K8_not_closed (fun h => Bool.noConfusion h.2)
  | _ + 2, htl, _, _ => absurd htl (by simp [K8])

/-- **K8**: a reachable state of an accepted declaration's program in which the injector has returned (the
    error of the failed main-thread provider), the caller has not cancelled, the derived context is not done,
    and the spawned goroutine is still running, blocked in its wait for the channel of the failed provider:
    no step but a caller cancellation is possible, there is no `Progress`.  This is exactly the case
    `ctxDone s = false` that `C08_partial` does not cover. -/
theorem K8_witness :
    Reach K8 envK8 sK8 ∧ sK8.result ≠ none ∧ sK8.callerCanc = false ∧ ctxDone sK8 = false ∧
    running sK8 1 ∧ spawned K8 sK8 1 ∧ opAt K8 1 (pc sK8 1) = some (.wait 2 0 true) ∧
    (∀ s', Step K8 envK8 sK8 s' → s' = { sK8 with callerCanc := true }) ∧ ¬ Progress K8 envK8 sK8 :=
  have ⟨h1, h2⟩ := stuck_of_not_ready (env := envK8) K8_held
  ⟨K8_reach, by decide, rfl, rfl, rfl, Or.inr ⟨0, rfl, by decide⟩, rfl, h1, h2⟩

end KV.Witness
