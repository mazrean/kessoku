import KV.Final
/-! Acyclicity of a planned graph without the DFS of `NewGraph` (C09): when every node but the root feeds an
    earlier node and the root is in the Kahn order of `Build`, every node is in that order (`all_in_order`), and
    along every edge the Kahn position increases (`edges_forward`), so there is no walk from a node to itself. -/
namespace KV

/-- a non-empty walk along the edges of the planned graph (`edges.getD n []` lists the edges from producer
    node `n` to its consumers `e.dst`) -/
inductive Path (g : Graph) : Nat → Nat → Prop
  | single {n m : Nat} (e : Edge) (he : e ∈ g.edges.getD n []) (hm : e.dst = m) : Path g n m
  | cons {n m k : Nat} (e : Edge) (he : e ∈ g.edges.getD n []) (hm : e.dst = m) (hp : Path g m k) : Path g n k

theorem Path.snoc {g : Graph} {a b : Nat} (hp : Path g a b) :
    ∀ (e : Edge), e ∈ g.edges.getD b [] → Path g a e.dst := by
  induction hp with
  | single e' he' hm =>
    intro e he
    subst hm
    exact Path.cons e' he' rfl (Path.single e he rfl)
  | cons e' he' hm _ ih =>
    intro e he
    exact Path.cons e' he' hm (ih e he)

theorem Path.src_edge {g : Graph} {a b : Nat} (hp : Path g a b) : ∃ e, e ∈ g.edges.getD a [] := by
  cases hp with
  | single e he _ => exact ⟨e, he⟩
  | cons e he _ _ => exact ⟨e, he⟩

/-- if the root is in a sound Kahn order then so is every node that can reach it through "earlier" edges -/
theorem all_in_order {g : Graph} (hg : GWF2 g) (hs : SoundL g (topoOrder g))
    (hout : ∀ n, 0 < n → n < g.nodes.length → ∃ e, e ∈ g.edges.getD n [] ∧ e.dst < n)
    (hroot : 0 ∈ topoOrder g) : ∀ n, n < g.nodes.length → n ∈ topoOrder g := by
  intro n
  induction n using Nat.strongRecOn with
  | _ n ih =>
    intro hn
    rcases Nat.eq_zero_or_pos n with rfl | hn0
    · exact hroot
    · obtain ⟨e, he, hlt⟩ := hout n hn0 hn
      obtain ⟨pre, post, hsplit⟩ := List.append_of_mem (ih e.dst hlt (hg.dstLt n e he))
      rw [hsplit]
      exact List.mem_append_left _ (producer_before hg hs he hsplit)

/-- **C09, refusal of cycles without the DFS**: an edge into a node of a sound Kahn order comes from a node that
    stands earlier in the order — so there is no cycle among the nodes of the order. -/
theorem edges_forward {g : Graph} (hg : GWF2 g) (hs : SoundL g (topoOrder g)) (hnd : (topoOrder g).Nodup)
    {n m : Nat} {e : Edge} (he : e ∈ g.edges.getD n []) (hm : e.dst = m) (hmo : m ∈ topoOrder g) :
    n ∈ topoOrder g ∧ (topoOrder g).idxOf n < (topoOrder g).idxOf m := by
  subst hm
  obtain ⟨pre, post, hsplit⟩ := List.append_of_mem hmo
  have hpre := producer_before hg hs he hsplit
  exact ⟨by rw [hsplit]; exact List.mem_append_left _ hpre, List.idxOf_lt_of_mem_pre hnd hsplit hpre⟩

theorem path_forward {g : Graph} (hg : GWF2 g) (hs : SoundL g (topoOrder g)) (hnd : (topoOrder g).Nodup)
    (hall : ∀ n, n < g.nodes.length → n ∈ topoOrder g) {n m : Nat} (hp : Path g n m) :
    (topoOrder g).idxOf n < (topoOrder g).idxOf m := by
  have step : ∀ {n m : Nat} (e : Edge), e ∈ g.edges.getD n [] → e.dst = m →
      (topoOrder g).idxOf n < (topoOrder g).idxOf m := fun e he hm =>
    (edges_forward hg hs hnd he hm (hall _ (hm ▸ hg.dstLt _ e he))).2
  induction hp with
  | single e he hm => exact step e he hm
  | cons e he hm _ ih => exact Nat.lt_trans (step e he hm) ih

/-- `a :: l` is a walk: each node is followed by the `dst` of one of its edges -/
def IsWalk (g : Graph) : List Nat → Prop
  | [] => True
  | [_] => True
  | a :: b :: rest => (∃ e, e ∈ g.edges.getD a [] ∧ e.dst = b) ∧ IsWalk g (b :: rest)

theorem path_of_walk {g : Graph} (l : List Nat) (a : Nat) (hne : l ≠ []) (hw : IsWalk g (a :: l)) :
    Path g a ((a :: l).getLast (by simp)) := by
  induction l generalizing a with
  | nil => exact absurd rfl hne
  | cons b rest ih =>
    obtain ⟨⟨e, he, hd⟩, hw'⟩ := hw
    rw [List.getLast_cons (List.cons_ne_nil b rest)]
    by_cases hr : rest = []
    · subst hr; exact Path.single e he hd
    · exact Path.cons e he hd (ih b hr hw')

end KV
