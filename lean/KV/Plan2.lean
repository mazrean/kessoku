import KV.Plan
/-! `Build` in fold-over-state form, for proofs. Must agree with `KV.build`. -/
namespace KV

/-! ### findOptimalPool, split into top-level pieces -/

/-- first loop: (max provided count, candidate pools) -/
def fopStep (deps : List Nat) (async : Bool) (pools poolProv : List (List Nat))
    (acc : Nat × List Nat) (i : Nat) : Nat × List Nat :=
  let cnt := (deps.filter (fun d => (poolProv.getD i []).contains d)).length
  if !async && (pools.getD i []).isEmpty then acc
  else if cnt > acc.1 then (cnt, [i])
  else if cnt == acc.1 then (acc.1, acc.2 ++ [i])
  else acc

def fopCands (deps : List Nat) (async : Bool) (pools poolProv : List (List Nat)) : Nat × List Nat :=
  (List.range pools.length).foldl (fopStep deps async pools poolProv) (0, [])

/-- scan a pool from its end: 1 = contains a dependency first, 2 = meets an async node first, 0 = neither -/
def fopScan (g : Graph) (deps : List Nat) : List Nat → Nat
  | [] => 0
  | nd :: rest => if deps.contains nd then 1 else if isAsyncNode g nd then 2 else fopScan g deps rest

def fopLoop (g : Graph) (deps : List Nat) (async : Bool) (pools : List (List Nat)) : List Nat → Option Nat
  | [] => none
  | p :: ps =>
    if !async then some p
    else
      match fopScan g deps (pools.getD p []).reverse with
      | 1 => some p
      | 0 => if p == 0 then some 0 else fopLoop g deps async pools ps
      | _ => fopLoop g deps async pools ps

def fopMinStep (async : Bool) (pools : List (List Nat)) (acc : Option Nat × Nat) (p : Nat) : Option Nat × Nat :=
  let sz := (pools.getD p []).length
  if !async && sz == 0 then acc
  else match acc.1 with
    | none => (some sz, p)
    | some m => if sz < m then (some sz, p) else acc

def findOptimalPool2 (g : Graph) (n : Nat) (pools poolProv : List (List Nat)) : Nat :=
  let deps := g.rev.getD n []
  let async := isAsyncNode g n
  let c := fopCands deps async pools poolProv
  if c.2.isEmpty then 0
  else
    match (if c.1 == deps.length then fopLoop g deps async pools c.2 else none) with
    | some p => p
    | none =>
      match (if async then (List.range pools.length).find? (fun i => (pools.getD i []).isEmpty) else none) with
      | some i => i
      | none => (c.2.foldl (fopMinStep async pools) (none, 0)).2

structure P1St where
  pools : List (List Nat)
  poolProv : List (List Nat)
  params : List Param
  args : List Nat
  nodePool : List (Option Nat)
  nodeRets : List (List Nat)
  isErr : Bool
deriving Repr

def p1Init (g : Graph) (k : Nat) : P1St :=
  let nn := g.nodes.length
  let argNodes := (List.range nn).filter (fun i => (g.nodes.getD i default).isArg)
  { pools := List.replicate k [], poolProv := List.replicate k argNodes, params := [], args := [],
    nodePool := List.replicate nn none, nodeRets := List.replicate nn [], isErr := false }

def p1Step (g : Graph) (st : P1St) (n : Nat) : P1St :=
  let nd := g.nodes.getD n default
  if nd.isArg then
    let pidx := st.params.length
    { st with params := st.params ++ [{ node := n, group := 0, isArg := true : Param }],
              nodeRets := st.nodeRets.set n [pidx], args := st.args ++ [pidx] }
  else
    let spec := g.provs.getD nd.prov default
    let p := findOptimalPool2 g n st.pools st.poolProv
    let base := st.params.length
    let ng := spec.provides.length
    { st with pools := listModify st.pools p (· ++ [n]),
              poolProv := listModify st.poolProv p (· ++ [n]),
              params := st.params ++ (List.range ng).map (fun gi => ({ node := n, group := gi, isArg := false } : Param)),
              nodeRets := st.nodeRets.set n ((List.range ng).map (· + base)),
              nodePool := st.nodePool.set n (some p),
              isErr := st.isErr || spec.isErr }

def bpass1 (g : Graph) (order : List Nat) (k : Nat) : P1St := order.foldl (p1Step g) (p1Init g k)

structure P2St where
  params : List Param
  nodeArgs : List (List CallArg)
deriving Repr

def p2Edge (p1 : P1St) (n : Nat) (st : P2St) (e : Edge) : P2St :=
  let pidx := (p1.nodeRets.getD n []).getD e.src 0
  let samePool := match p1.nodePool.getD n none, p1.nodePool.getD e.dst none with
    | some a, some b => a == b
    | _, _ => false
  let shouldWait := !samePool
  { params := listModify st.params pidx (fun p => { p with refs := p.refs + 1, withChan := !p.isArg && (p.withChan || shouldWait) }),
    nodeArgs := listModify st.nodeArgs e.dst (·.set e.slot { param := pidx, isWait := shouldWait }) }

def p2Node (g : Graph) (p1 : P1St) (st : P2St) (n : Nat) : P2St :=
  (g.edges.getD n []).foldl (p2Edge p1 n) st

def bpass2 (g : Graph) (order : List Nat) (p1 : P1St) (params0 : List Param) : P2St :=
  order.foldl (p2Node g p1)
    { params := params0,
      nodeArgs := (List.range g.nodes.length).map (fun i => List.replicate (nodeSlots g i) { param := 0, isWait := false }) }

def retParamOf (g : Graph) (p1 : P1St) : Nat :=
  if (g.nodes.getD g.retNode default).isArg then (p1.nodeRets.getD g.retNode []).getD 0 0
  else (p1.nodeRets.getD g.retNode []).getD g.retIdx 0

def refBump (p : Param) : Param := { p with refs := p.refs + 1 }

def build2 (g : Graph) : Except PlanErr BuildOut :=
  let order := topoOrder g
  let p1 := bpass1 g order (maxAntichain g)
  if order.contains g.retNode then
    let rp := retParamOf g p1
    let params0 := listModify p1.params rp refBump
    let p2 := bpass2 g order p1 params0
    .ok { params := p2.params, args := p1.args, retParam := rp, isErr := p1.isErr, pools := p1.pools,
          nodePool := p1.nodePool, nodeRets := p1.nodeRets, nodeArgs := p2.nodeArgs }
  else .error .noReturn

def planDump2 (provs : List PSpec) (ret : Nat) : String :=
  match newGraph provs ret with
  | .error e => s!"ERR {errStr e}"
  | .ok g =>
    match build2 g with
    | .error e => s!"ERR {errStr e}"
    | .ok b =>
      match buildStmts g b.pools with
      | .error e => s!"ERR {errStr e}"
      | .ok (parent, chains) =>
        let hasAsync := (List.range g.nodes.length).any (isAsyncNode g)
        let argTys := b.args.map (fun pi => (g.nodes.getD (b.params.getD pi default).node default).ty)
        let thr := fun (l : List Nat) => " ".intercalate (l.map (dumpCall false g b))
        s!"OK async={hasAsync} err={b.isErr} args={argTys} main=[{thr parent}] go=[{" | ".intercalate (chains.map thr)}]"

end KV
