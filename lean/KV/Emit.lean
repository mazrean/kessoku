import KV.T1
/-! Emission of the micro-op program from node blocks (one block `[waits] ; enter ; exit ; [closes]` per provider
call, the main thread framed by the `go` statements and `eg.Wait ; return`), and the proof that plan-level facts
(`PlanFacts`, `PlanData`) give the rank-based `WF` and `WFData` of `T1` (`emit_wf`, `emit_wfdata`), with the Kahn
position of the owning node as rank. -/
namespace T1

structure NodeInfo where
  id : Nat
  args : List (Nat × Bool)     -- (variable, waited?)  waited = IsWait ∧ withChannel
  rets : List (Nat × Bool)     -- (variable, hasChannel?)
deriving Repr

def waitsOf (nd : NodeInfo) : List Op := (nd.args.filter (·.2)).map (fun a => Op.wait nd.id a.1)
def closesOf (nd : NodeInfo) : List Op := (nd.rets.filter (·.2)).map (fun r => Op.close nd.id r.1)
def enterOf (nd : NodeInfo) : Op := .enter nd.id (nd.args.map (·.1))
def exitOf (nd : NodeInfo) : Op := .exit nd.id (nd.rets.map (·.1))
def block (nd : NodeInfo) : List Op := waitsOf nd ++ ([enterOf nd, exitOf nd] ++ closesOf nd)

def spawns (ngo : Nat) : List Op := (List.range ngo).map (fun g => Op.spawn (g + 1))
def tailOps (ngo : Nat) (retVar : Nat) : List Op := (if ngo = 0 then [] else [Op.egwait]) ++ [Op.ret retVar]
def mainThread (main : List NodeInfo) (ngo : Nat) (retVar : Nat) : List Op :=
  spawns ngo ++ (main.flatMap block ++ tailOps ngo retVar)

def emit (main : List NodeInfo) (gos : List (List NodeInfo)) (retVar : Nat) : Prog :=
  ⟨mainThread main gos.length retVar :: gos.map (·.flatMap block)⟩

def rankOf (pos : Nat → Nat) (N : Nat) : Op → Nat
  | .spawn _ => 0
  | .wait o _ => 4 * pos o + 1
  | .enter o _ => 4 * pos o + 2
  | .exit o _ => 4 * pos o + 3
  | .close o _ => 4 * pos o + 4
  | .egwait => 4 * N + 5
  | .ret _ => 4 * N + 6

theorem mem_waitsOf {nd : NodeInfo} {op : Op} : op ∈ waitsOf nd ↔ ∃ v, (v, true) ∈ nd.args ∧ op = .wait nd.id v := by
  simp only [waitsOf, List.mem_map, List.mem_filter, Prod.exists, exists_and_right, exists_eq_right,
    eq_comm (b := op)]

theorem mem_closesOf {nd : NodeInfo} {op : Op} : op ∈ closesOf nd ↔ ∃ v, (v, true) ∈ nd.rets ∧ op = .close nd.id v := by
  simp only [closesOf, List.mem_map, List.mem_filter, Prod.exists, exists_and_right, exists_eq_right,
    eq_comm (b := op)]

theorem mem_block {nd : NodeInfo} {op : Op} : op ∈ block nd ↔
    (∃ v, (v, true) ∈ nd.args ∧ op = .wait nd.id v) ∨ op = enterOf nd ∨ op = exitOf nd ∨
    (∃ v, (v, true) ∈ nd.rets ∧ op = .close nd.id v) := by
  simp only [block, List.mem_append, List.mem_cons, List.not_mem_nil, or_false, or_assoc, mem_waitsOf, mem_closesOf]

theorem mem_spawns {ngo : Nat} {op : Op} : op ∈ spawns ngo ↔ ∃ g, g < ngo ∧ op = .spawn (g + 1) := by
  simp only [spawns, List.mem_map, List.mem_range, eq_comm (b := op)]

theorem mem_tailOps {ngo rv : Nat} {op : Op} : op ∈ tailOps ngo rv ↔ (ngo ≠ 0 ∧ op = .egwait) ∨ op = .ret rv := by
  simp only [tailOps, List.mem_append, List.mem_singleton]
  split <;> simp [*]

theorem rank_block {pos : Nat → Nat} {N : Nat} {nd : NodeInfo} {op : Op} (h : op ∈ block nd) :
    4 * pos nd.id + 1 ≤ rankOf pos N op ∧ rankOf pos N op ≤ 4 * pos nd.id + 4 := by
  -- the rank of each is `4 * pos nd.id + k` with `1 ≤ k ≤ 4`
  rcases mem_block.mp h with ⟨_, _, rfl⟩ | rfl | rfl | ⟨_, _, rfl⟩ <;>
    exact ⟨Nat.add_le_add_left (by decide) _, Nat.add_le_add_left (by decide) _⟩

/-! ### the order of the ops of a thread

`a` may stand before `b`: their ranks are in order, strictly when `a` is an `enter` or an `exit`.  The first
half is `WF.sorted`; the second says that the `enter` and the `exit` of a node occur once in a thread
(`WFData.exitStrict`). -/

def Before (rank : Op → Nat) (a b : Op) : Prop :=
  rank a ≤ rank b ∧ ((∃ o x, a = .enter o x ∨ a = .exit o x) → rank a < rank b)

theorem Before.of_lt {rank : Op → Nat} {a b : Op} (h : rank a < rank b) : Before rank a b :=
  ⟨Nat.le_of_lt h, fun _ => h⟩

theorem Before.of_le {rank : Op → Nat} {a b : Op} (h : rank a ≤ rank b) (ha : ∀ o x, a ≠ .enter o x ∧ a ≠ .exit o x) :
    Before rank a b :=
  ⟨h, fun ⟨o, x, e⟩ => e.elim (fun e => absurd e (ha o x).1) (fun e => absurd e (ha o x).2)⟩

theorem block_before (pos : Nat → Nat) (N : Nat) (nd : NodeInfo) : (block nd).Pairwise (Before (rankOf pos N)) := by
  -- the ranks go up from segment to segment; within the waits and within the closes they are equal
  have hw : ∀ a ∈ waitsOf nd, rankOf pos N a = 4 * pos nd.id + 1 ∧ ∀ o x, a ≠ .enter o x ∧ a ≠ .exit o x :=
    fun a ha => by obtain ⟨v, _, rfl⟩ := mem_waitsOf.mp ha; exact ⟨rfl, fun _ _ => ⟨nofun, nofun⟩⟩
  have hm : ∀ a ∈ [enterOf nd, exitOf nd], 4 * pos nd.id + 1 < rankOf pos N a ∧ rankOf pos N a < 4 * pos nd.id + 4 :=
    fun a ha => by
      simp only [List.mem_cons, List.not_mem_nil, or_false] at ha
      rcases ha with rfl | rfl <;> exact ⟨Nat.add_lt_add_left (by decide) _, Nat.add_lt_add_left (by decide) _⟩
  have hc : ∀ a ∈ closesOf nd, rankOf pos N a = 4 * pos nd.id + 4 ∧ ∀ o x, a ≠ .enter o x ∧ a ≠ .exit o x :=
    fun a ha => by obtain ⟨v, _, rfl⟩ := mem_closesOf.mp ha; exact ⟨rfl, fun _ _ => ⟨nofun, nofun⟩⟩
  rw [block, List.pairwise_append, List.pairwise_append]
  refine ⟨List.pairwise_of_forall_mem_list fun a ha b hb =>
      .of_le (Nat.le_of_eq ((hw a ha).1.trans (hw b hb).1.symm)) (hw a ha).2,
    ⟨List.pairwise_pair.mpr (.of_lt (Nat.lt_succ_self _)),
      List.pairwise_of_forall_mem_list fun a ha b hb =>
        .of_le (Nat.le_of_eq ((hc a ha).1.trans (hc b hb).1.symm)) (hc a ha).2,
      fun a ha b hb => .of_lt (by rw [(hc b hb).1]; exact (hm a ha).2)⟩,
    fun a ha b hb => .of_lt ?_⟩
  rw [(hw a ha).1]
  rcases List.mem_append.mp hb with hb | hb
  · exact (hm b hb).1
  · rw [(hc b hb).1]; exact Nat.add_lt_add_left (by decide) _

theorem blocks_before (pos : Nat → Nat) (N : Nat) (l : List NodeInfo)
    (hs : l.Pairwise (fun a b => pos a.id < pos b.id)) :
    (l.flatMap block).Pairwise (Before (rankOf pos N)) := by
  rw [List.pairwise_flatMap]
  refine ⟨fun nd _ => block_before pos N nd, ?_⟩
  exact List.Pairwise.imp (fun {a b} hab x hx y hy => .of_lt (by
    have h1 := (rank_block (pos := pos) (N := N) hx).2
    have h2 := (rank_block (pos := pos) (N := N) hy).1
    omega)) hs

theorem block_noargs {nd : NodeInfo} (h : nd.args = []) :
    block nd = enterOf nd :: exitOf nd :: closesOf nd := by
  simp only [block, waitsOf, h, List.filter_nil, List.map_nil, List.nil_append, List.cons_append]

/-! ### threads of the emitted program -/

def threadNodes (main : List NodeInfo) (gos : List (List NodeInfo)) (t : Nat) : List NodeInfo :=
  match t with
  | 0 => main
  | g + 1 => gos.getD g []

theorem emit_length (main : List NodeInfo) (gos : List (List NodeInfo)) (rv : Nat) :
    (emit main gos rv).threads.length = gos.length + 1 := by
  rw [emit, List.length_cons, List.length_map]

theorem thread_emit_zero (main : List NodeInfo) (gos : List (List NodeInfo)) (rv : Nat) :
    thread (emit main gos rv) 0 = mainThread main gos.length rv := by
  simp [thread, emit]

theorem thread_emit_succ (main : List NodeInfo) (gos : List (List NodeInfo)) (rv g : Nat) :
    thread (emit main gos rv) (g + 1) = (gos.getD g []).flatMap block :=
  List.getD_map (d := []) (fun l : List NodeInfo => l.flatMap block)

/-- the ops of thread `t` in front of the blocks of its nodes: the spawns of the main thread -/
def spawnsOf (gos : List (List NodeInfo)) : Nat → List Op
  | 0 => spawns gos.length
  | _ + 1 => []

theorem spawns_length (n : Nat) : (spawns n).length = n := by simp [spawns]

theorem opAt_emit_spawn (main : List NodeInfo) (gos : List (List NodeInfo)) (rv : Nat) {j : Nat} (h : j < gos.length) :
    opAt (emit main gos rv) 0 j = some (.spawn (j + 1)) := by
  simp only [opAt, thread_emit_zero, mainThread]
  rw [List.getElem?_append_left (by rw [spawns_length]; exact h)]
  simp [spawns, h]

theorem thread_emit_blocks (main : List NodeInfo) (gos : List (List NodeInfo)) (rv t : Nat) :
    ∃ sfx, thread (emit main gos rv) t = spawnsOf gos t ++ ((threadNodes main gos t).flatMap block ++ sfx) := by
  cases t with
  | zero => exact ⟨_, thread_emit_zero main gos rv⟩
  | succ g => exact ⟨[], by rw [thread_emit_succ, List.append_nil]; rfl⟩

theorem mem_thread_emit_iff {main : List NodeInfo} {gos : List (List NodeInfo)} {rv t : Nat} {op : Op} :
    op ∈ thread (emit main gos rv) t ↔
      (∃ nd ∈ threadNodes main gos t, op ∈ block nd) ∨
      (t = 0 ∧ (op ∈ spawns gos.length ∨ op ∈ tailOps gos.length rv)) := by
  cases t with
  | zero =>
    simp only [thread_emit_zero, mainThread, List.mem_append, List.mem_flatMap, threadNodes, true_and]
    exact or_left_comm
  | succ g =>
    simp only [thread_emit_succ, List.mem_flatMap, threadNodes, Nat.succ_ne_zero, false_and, or_false]

theorem nodeOp_mem_emit {main : List NodeInfo} {gos : List (List NodeInfo)} {rv t : Nat} {op : Op}
    (h1 : ∀ g, op ≠ .spawn g) (h2 : op ≠ .egwait) (h3 : ∀ v, op ≠ .ret v) :
    op ∈ thread (emit main gos rv) t ↔ ∃ nd ∈ threadNodes main gos t, op ∈ block nd := by
  refine ⟨fun h => ?_, fun h => mem_thread_emit_iff.mpr (Or.inl h)⟩
  rcases mem_thread_emit_iff.mp h with hb | ⟨_, hs | ht⟩
  · exact hb
  · obtain ⟨g, _, rfl⟩ := mem_spawns.mp hs; exact absurd rfl (h1 _)
  · rcases mem_tailOps.mp ht with ⟨_, rfl⟩ | rfl
    · exact absurd rfl h2
    · exact absurd rfl (h3 _)

/-! ### shape of the main thread -/

theorem mainThread_getLast? (main : List NodeInfo) (ngo rv : Nat) :
    (mainThread main ngo rv).getLast? = some (.ret rv) := by
  rw [mainThread, tailOps, ← List.append_assoc, ← List.append_assoc, List.getLast?_concat]

theorem egwait_before_ret {main : List NodeInfo} {ngo rv : Nat} (hngo : ngo ≠ 0) {j v : Nat}
    (h : (mainThread main ngo rv)[j]? = some (.ret v)) :
    ∃ i, i < j ∧ (mainThread main ngo rv)[i]? = some .egwait := by
  -- the thread is `pre ++ [eg.Wait, ret]`, and `pre` (spawns and blocks) has no `ret`
  have hm : mainThread main ngo rv = (spawns ngo ++ main.flatMap block) ++ [Op.egwait, Op.ret rv] := by
    simp only [mainThread, tailOps, if_neg hngo, List.append_assoc, List.cons_append, List.nil_append]
  rw [hm] at h ⊢
  generalize hpre : spawns ngo ++ main.flatMap block = pre at h ⊢
  by_cases hj : j < pre.length
  · rw [List.getElem?_append_left hj] at h
    have hmem : Op.ret v ∈ spawns ngo ++ main.flatMap block := hpre ▸ List.mem_of_getElem? h
    rcases List.mem_append.mp hmem with hs | hb
    · obtain ⟨_, _, he⟩ := mem_spawns.mp hs; cases he
    · obtain ⟨nd, _, hb⟩ := List.mem_flatMap.mp hb
      rcases mem_block.mp hb with ⟨_, _, he⟩ | he | he | ⟨_, _, he⟩ <;> cases he
  · rw [List.getElem?_append_right (Nat.le_of_not_lt hj)] at h
    refine ⟨pre.length, Nat.lt_of_le_of_ne (Nat.le_of_not_lt hj) fun e => ?_, ?_⟩
    · rw [← e, Nat.sub_self] at h; cases h
    · rw [List.getElem?_append_right (Nat.le_refl _), Nat.sub_self]; rfl

theorem egwait_mem_emit (main : List NodeInfo) (gos : List (List NodeInfo)) (rv : Nat)
    (h : 1 < (emit main gos rv).threads.length) : Op.egwait ∈ thread (emit main gos rv) 0 := by
  rw [emit_length] at h
  rw [thread_emit_zero, mainThread]
  exact List.mem_append_right _ (List.mem_append_right _
    (mem_tailOps.mpr (Or.inl ⟨Nat.ne_of_gt (Nat.lt_of_succ_lt_succ h), rfl⟩)))

/-! ### which node ops a block, and a thread, contains -/

theorem wait_mem_block {nd : NodeInfo} {o c : Nat} : Op.wait o c ∈ block nd ↔ nd.id = o ∧ (c, true) ∈ nd.args := by
  constructor
  · intro h
    rcases mem_block.mp h with ⟨_, hv, h⟩ | h | h | ⟨_, _, h⟩ <;> cases h
    exact ⟨rfl, hv⟩
  · rintro ⟨rfl, hv⟩; exact mem_block.mpr (.inl ⟨c, hv, rfl⟩)

theorem enter_mem_block {nd : NodeInfo} {o : Nat} {args : List Nat} :
    Op.enter o args ∈ block nd ↔ nd.id = o ∧ nd.args.map (·.1) = args := by
  constructor
  · intro h
    rcases mem_block.mp h with ⟨_, _, h⟩ | h | h | ⟨_, _, h⟩ <;> cases h
    exact ⟨rfl, rfl⟩
  · rintro ⟨rfl, rfl⟩; exact mem_block.mpr (.inr (.inl rfl))

theorem exit_mem_block {nd : NodeInfo} {o : Nat} {rets : List Nat} :
    Op.exit o rets ∈ block nd ↔ nd.id = o ∧ nd.rets.map (·.1) = rets := by
  constructor
  · intro h
    rcases mem_block.mp h with ⟨_, _, h⟩ | h | h | ⟨_, _, h⟩ <;> cases h
    exact ⟨rfl, rfl⟩
  · rintro ⟨rfl, rfl⟩; exact mem_block.mpr (.inr (.inr (.inl rfl)))

theorem close_mem_block {nd : NodeInfo} {o c : Nat} : Op.close o c ∈ block nd ↔ nd.id = o ∧ (c, true) ∈ nd.rets := by
  constructor
  · intro h
    rcases mem_block.mp h with ⟨_, _, h⟩ | h | h | ⟨_, hv, h⟩ <;> cases h
    exact ⟨rfl, hv⟩
  · rintro ⟨rfl, hv⟩; exact mem_block.mpr (.inr (.inr (.inr ⟨c, hv, rfl⟩)))

theorem wait_mem_emit {main : List NodeInfo} {gos : List (List NodeInfo)} {rv t o c : Nat} :
    Op.wait o c ∈ thread (emit main gos rv) t ↔ ∃ nd ∈ threadNodes main gos t, nd.id = o ∧ (c, true) ∈ nd.args := by
  simp only [nodeOp_mem_emit (op := .wait o c) nofun nofun nofun, wait_mem_block]

theorem enter_mem_emit {main : List NodeInfo} {gos : List (List NodeInfo)} {rv t o : Nat} {args : List Nat} :
    Op.enter o args ∈ thread (emit main gos rv) t ↔
      ∃ nd ∈ threadNodes main gos t, nd.id = o ∧ nd.args.map (·.1) = args := by
  simp only [nodeOp_mem_emit (op := .enter o args) nofun nofun nofun, enter_mem_block]

theorem exit_mem_emit {main : List NodeInfo} {gos : List (List NodeInfo)} {rv t o : Nat} {rets : List Nat} :
    Op.exit o rets ∈ thread (emit main gos rv) t ↔
      ∃ nd ∈ threadNodes main gos t, nd.id = o ∧ nd.rets.map (·.1) = rets := by
  simp only [nodeOp_mem_emit (op := .exit o rets) nofun nofun nofun, exit_mem_block]

theorem close_mem_emit {main : List NodeInfo} {gos : List (List NodeInfo)} {rv t o c : Nat} :
    Op.close o c ∈ thread (emit main gos rv) t ↔ ∃ nd ∈ threadNodes main gos t, nd.id = o ∧ (c, true) ∈ nd.rets := by
  simp only [nodeOp_mem_emit (op := .close o c) nofun nofun nofun, close_mem_block]

/-- the other ops frame the main thread: they stand in no block -/
theorem frameOp_mem_emit {main : List NodeInfo} {gos : List (List NodeInfo)} {rv t : Nat} {op : Op}
    (h : op = .egwait ∨ (∃ v, op = .ret v) ∨ ∃ g, op = .spawn g) :
    op ∈ thread (emit main gos rv) t ↔ t = 0 ∧ (op ∈ spawns gos.length ∨ op ∈ tailOps gos.length rv) := by
  rw [mem_thread_emit_iff]
  refine or_iff_right ?_
  rintro ⟨nd, _, hb⟩
  rcases mem_block.mp hb with ⟨_, _, rfl⟩ | rfl | rfl | ⟨_, _, rfl⟩ <;> rcases h with h | ⟨_, h⟩ | ⟨_, h⟩ <;> cases h

theorem ret_mem_emit {main : List NodeInfo} {gos : List (List NodeInfo)} {rv t v : Nat} :
    Op.ret v ∈ thread (emit main gos rv) t ↔ t = 0 ∧ v = rv := by
  rw [frameOp_mem_emit (.inr (.inl ⟨v, rfl⟩))]
  refine and_congr_right fun _ => ⟨?_, fun h => Or.inr (mem_tailOps.mpr (Or.inr (h ▸ rfl)))⟩
  rintro (hs | hl)
  · obtain ⟨_, _, h⟩ := mem_spawns.mp hs; cases h
  · rcases mem_tailOps.mp hl with ⟨_, h⟩ | h <;> cases h
    rfl

/-! ### plan-level facts -/

structure PlanFacts (main : List NodeInfo) (gos : List (List NodeInfo)) (pos : Nat → Nat) (N : Nat) : Prop where
  posLt : ∀ t, ∀ nd ∈ threadNodes main gos t, pos nd.id < N
  sorted : ∀ t, (threadNodes main gos t).Pairwise (fun a b => pos a.id < pos b.id)
  /-- a waited argument has a producer with a channel and a smaller Kahn position -/
  waitCloser : ∀ t, ∀ nd ∈ threadNodes main gos t, ∀ v, (v, true) ∈ nd.args →
    ∃ t' nd', nd' ∈ threadNodes main gos t' ∧ (v, true) ∈ nd'.rets ∧ pos nd'.id < pos nd.id

theorem tail_rank {pos : Nat → Nat} {N ngo rv : Nat} {op : Op} (h : op ∈ tailOps ngo rv) :
    4 * N + 5 ≤ rankOf pos N op := by
  rcases mem_tailOps.mp h with ⟨_, rfl⟩ | rfl <;> simp [rankOf]

theorem spawn_before {pos : Nat → Nat} {N ngo : Nat} {a : Op} (h : a ∈ spawns ngo) (b : Op) :
    Before (rankOf pos N) a b := by
  obtain ⟨g, _, rfl⟩ := mem_spawns.mp h
  exact .of_le (Nat.zero_le _) fun _ _ => ⟨nofun, nofun⟩

theorem tail_before (pos : Nat → Nat) (N ngo rv : Nat) : (tailOps ngo rv).Pairwise (Before (rankOf pos N)) := by
  rw [tailOps]
  split
  · exact List.pairwise_singleton _ _
  · exact List.pairwise_pair.mpr (.of_lt (Nat.lt_succ_self _))

theorem thread_before {main : List NodeInfo} {gos : List (List NodeInfo)} {pos : Nat → Nat} {N rv : Nat}
    (hf : PlanFacts main gos pos N) (t : Nat) : (thread (emit main gos rv) t).Pairwise (Before (rankOf pos N)) := by
  cases t with
  | zero =>
    rw [thread_emit_zero, mainThread, List.pairwise_append, List.pairwise_append]
    refine ⟨List.pairwise_of_forall_mem_list fun a ha b _ => spawn_before ha b,
      ⟨blocks_before pos N main (hf.sorted 0), tail_before pos N _ rv, fun a ha b hb => .of_lt ?_⟩,
      fun a ha b _ => spawn_before ha b⟩
    obtain ⟨nd, hnd, hop⟩ := List.mem_flatMap.mp ha
    have h1 := (rank_block (pos := pos) (N := N) hop).2
    have h2 := tail_rank (pos := pos) (N := N) hb
    have h3 := hf.posLt 0 nd hnd
    omega
  | succ g =>
    rw [thread_emit_succ]
    exact blocks_before pos N _ (hf.sorted (g + 1))

/-- an op of a goroutine ranks above the spawns and below `eg.Wait` -/
theorem rank_go_op {main : List NodeInfo} {gos : List (List NodeInfo)} {pos : Nat → Nat} {N rv : Nat}
    (hf : PlanFacts main gos pos N) {g : Nat} (hg : 0 < g) {op : Op} (h : op ∈ thread (emit main gos rv) g) :
    0 < rankOf pos N op ∧ rankOf pos N op < 4 * N + 5 := by
  rcases mem_thread_emit_iff.mp h with ⟨nd, hnd, hb⟩ | ⟨h0, _⟩
  · have := rank_block (pos := pos) (N := N) hb
    have := hf.posLt g nd hnd
    omega
  · exact absurd h0 (Nat.ne_of_gt hg)

theorem emit_wf {main : List NodeInfo} {gos : List (List NodeInfo)} {pos : Nat → Nat} {N rv : Nat}
    (hf : PlanFacts main gos pos N) : WF (emit main gos rv) (rankOf pos N) where
  sorted := fun t => (thread_before hf t).imp And.left
  waitClose := by
    intro t o c h
    obtain ⟨nd, hnd, rfl, hv⟩ := wait_mem_emit.mp h
    obtain ⟨t', nd', hnd', hr, hp⟩ := hf.waitCloser t nd hnd c hv
    exact ⟨t', nd'.id, close_mem_emit.mpr ⟨nd', hnd', rfl, hr⟩, by simp only [rankOf]; omega⟩
  spawnBefore := by
    intro g hg0 hgl
    cases g with
    | zero => exact absurd hg0 (Nat.lt_irrefl 0)
    | succ k =>
      have hk : k < gos.length := by rw [emit_length] at hgl; exact Nat.lt_of_succ_lt_succ hgl
      refine ⟨?_, fun op hop => (rank_go_op hf hg0 hop).1⟩
      rw [thread_emit_zero, mainThread]
      exact List.mem_append_left _ (mem_spawns.mpr ⟨k, hk, rfl⟩)
  egwaitAfter := fun g hg0 op hop => (rank_go_op hf hg0 hop).2
  egwaitMain := fun _ h => ((frameOp_mem_emit (.inl rfl)).mp h).1

/-! ### data-flow: plan-level facts ⇒ `WFData` of the emitted program -/

structure PlanData (main : List NodeInfo) (gos : List (List NodeInfo)) (pos : Nat → Nat) (isParam : Nat → Prop) : Prop where
  /-- a variable is written by one node only, and that node stands in one thread only, once -/
  writer : ∀ t t' nd nd' v b b', nd ∈ threadNodes main gos t → nd' ∈ threadNodes main gos t' →
    (v, b) ∈ nd.rets → (v, b') ∈ nd'.rets → t = t' ∧ nd = nd'
  /-- every non-parameter argument has an earlier producer, in the same thread or waited for -/
  reads : ∀ t nd, nd ∈ threadNodes main gos t → ∀ v w, (v, w) ∈ nd.args → ¬ isParam v →
    ∃ t' nd' c, nd' ∈ threadNodes main gos t' ∧ (v, c) ∈ nd'.rets ∧ pos nd'.id < pos nd.id ∧
      (t' = t ∨ (w = true ∧ c = true))

theorem emit_wfdata {main : List NodeInfo} {gos : List (List NodeInfo)} {pos : Nat → Nat} {N rv : Nat}
    {isParam : Nat → Prop} (hf : PlanFacts main gos pos N) (hd : PlanData main gos pos isParam) :
    WFData (emit main gos rv) (rankOf pos N) isParam where
  reads := by
    intro t o args v hen hv hnp
    obtain ⟨nd, hnd, rfl, rfl⟩ := enter_mem_emit.mp hen
    obtain ⟨⟨v', w⟩, hvw, rfl⟩ := List.mem_map.mp hv
    obtain ⟨t', nd', c, hnd', hret, hpos, hcase⟩ := hd.reads t nd hnd v' w hvw hnp
    refine ⟨t', nd'.id, _, exit_mem_emit.mpr ⟨nd', hnd', rfl, rfl⟩, List.mem_map.mpr ⟨(v', c), hret, rfl⟩, ?_⟩
    rcases hcase with rfl | ⟨rfl, rfl⟩
    · exact Or.inl ⟨rfl, by simp only [rankOf]; omega⟩
    · -- within a node the wait ranks just below the enter, the exit just below the close
      exact Or.inr ⟨⟨nd.id, wait_mem_emit.mpr ⟨nd, hnd, rfl, hvw⟩, Nat.lt_succ_self _⟩,
        ⟨nd'.id, close_mem_emit.mpr ⟨nd', hnd', rfl, hret⟩, Nat.lt_succ_self _⟩⟩
  closeUnique := by
    intro c t o t' o' h1 h2
    obtain ⟨nd, hnd, rfl, hr⟩ := close_mem_emit.mp h1
    obtain ⟨nd', hnd', rfl, hr'⟩ := close_mem_emit.mp h2
    obtain ⟨ht, rfl⟩ := hd.writer t t' nd nd' c true true hnd hnd' hr hr'
    exact ⟨ht, rfl⟩
  exitStrict := fun t => (thread_before hf t).imp fun ⟨_, h⟩ o rets ha hb =>
    Nat.lt_irrefl _ (hb ▸ ha ▸ h ⟨o, rets, Or.inr ha⟩)
  singleWriter := by
    intro v t o rets t' o' rets' h1 hv h2 hv'
    obtain ⟨nd, hnd, rfl, rfl⟩ := exit_mem_emit.mp h1
    obtain ⟨nd', hnd', rfl, rfl⟩ := exit_mem_emit.mp h2
    obtain ⟨⟨v1, b1⟩, hr1, rfl⟩ := List.mem_map.mp hv
    obtain ⟨⟨v2, b2⟩, hr2, hv2⟩ := List.mem_map.mp hv'
    simp only at hv2; subst hv2
    obtain ⟨ht, rfl⟩ := hd.writer t t' nd nd' v2 b1 b2 hnd hnd' hr1 hr2
    exact ⟨ht, rfl, rfl⟩

end T1
