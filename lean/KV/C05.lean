import KV.Kuhn
import KV.DataFlow
/-! # C05 — input-free Async providers overlap

Placement: in the pools the first pass of `Build` (graph.go) computes, an input-free Async node is preceded in its pool
(= thread) only by input-free synchronous nodes.  Schedules (namespace `T1`): positions preceded only by ops that cannot
block are reached together by some execution; in an emitted program these are the `enter`s of marked nodes that have no
arguments and only unmarked nodes without arguments in front of them.  Together: some reachable state of `emitted p`
has every emitted input-free Async provider inside its provider function. -/
namespace KV

def ZFirst (g : Graph) (st : P1St) : Prop :=
  ∀ i pre a post, st.pools.getD i [] = pre ++ a :: post → isAsyncNode g a = true → g.rev.getD a [] = [] →
    ∀ m ∈ pre, isAsyncNode g m = false ∧ g.rev.getD m [] = []

theorem p1Step_zfirst {g : Graph} {k : Nat} {done : List Nat} {st : P1St} {n : Nat}
    (h : P1Inv g k done st) (hz : ZFirst g st)
    (hzero : g.rev.getD n [] = [] → ∀ m ∈ done, g.rev.getD m [] = [])
    (hroom : g.rev.getD n [] = [] → isAsyncNode g n = true → done.length + 1 ≤ k) :
    ZFirst g (p1Step g st n) := by
  intro i pre a post hpool hasync hrev
  rw [getD_p1Step_pools] at hpool
  split at hpool
  · rename_i hc
    obtain ⟨_, rfl, hpl⟩ := hc
    rcases List.concat_eq_append_cons hpool with ⟨post', hold⟩ | ⟨rfl, rfl, _⟩
    · exact hz _ pre a post' hold hasync hrev
    · -- a = n opens behind the whole old pool
      intro m hm
      refine ⟨?_, hzero hrev m ((h.sub _).subset hm)⟩
      rcases findOptimalPool2_async_zero g a st.pools st.poolProv hasync hrev (by omega) with ⟨h0, hall⟩ | hemp | hfull
      · rw [h0] at hm; exact hall m hm
      · rw [hemp] at hm; cases hm
      · -- no empty pool: impossible, there are more pools than placed nodes
        have := h.pools_le_of_nonempty hfull
        have := hroom hrev hasync
        omega
  · exact hz i pre a post hpool hasync hrev

/-- **C05, plan level**: in the pools computed for any well-formed graph, a dependency-free Async
    provider is preceded in its pool only by dependency-free synchronous providers. -/
theorem bpass1_zfirst {g : Graph} (hg : GWF g) :
    ZFirst g (bpass1 g (topoOrder g) (maxAntichain g)) := by
  obtain ⟨_, hnd, hlt⟩ := topoOrder_sound hg
  refine (bpass1_induction hnd hlt (X := fun _ st => ZFirst g st) ?_ ?_).2
  · intro i pre a post hp
    rw [p1Init_pools_getD] at hp
    cases pre <;> cases hp
  rintro xs x ys st hsplit h hz
  refine p1Step_zfirst h hz (fun hr => topoOrder_zero_prefix hg xs ys x hsplit hr) ?_
  intro hr _
  -- xs ++ [x] is a duplicate-free list of dependency-free nodes, so it is no longer than their number
  have hsplit' : topoOrder g = (xs ++ [x]) ++ ys := hsplit.trans (List.append_cons ..)
  have hsub : (xs ++ [x]) ⊆ (List.range g.nodes.length).filter (fun v => decide (g.rev.getD v [] = [])) :=
    fun m hm => List.mem_filter.mpr ⟨List.mem_range.mpr (hlt m (hsplit' ▸ List.mem_append_left ys hm)),
      decide_eq_true ((List.mem_append.mp hm).elim (topoOrder_zero_prefix hg xs ys x hsplit hr m)
        fun hm => List.mem_singleton.mp hm ▸ hr)⟩
  have h1 := (List.nodup_append.mp (hsplit' ▸ hnd)).1.length_le_of_subset hsub
  have h2 := maxAntichain_ge_zero_nodes hg
  rw [List.length_append, List.length_singleton] at h1
  omega

theorem plan_zfirst {provs : List PSpec} {ret : Nat} {p : PlanOut} (h : plan provs ret = .ok p)
    {i : Nat} {pre post : List Nat} {a : Nat} (hpool : p.b.pools.getD i [] = pre ++ a :: post)
    (ha : isAsyncNode p.g a = true) (hz : p.g.rev.getD a [] = []) :
    ∀ m ∈ pre, isAsyncNode p.g m = false ∧ p.g.rev.getD m [] = [] := by
  have hok := plan_planOK h
  rw [hok.pools] at hpool
  exact bpass1_zfirst hok.gwf.toGWF i pre a post hpool ha hz

end KV

namespace T1

def freeOp : Op → Prop
  | .wait _ _ => False
  | .egwait => False
  | _ => True

theorem enabled_of_free {P : Prog} {s : Pcs} {t : Nat} {op : Op} (htl : t < P.threads.length)
    (hop : opAt P t (pc s t) = some op) (hsp : spawned P s t) (hf : freeOp op) : Enabled P s t := by
  refine ⟨htl, op, hop, hsp, ?_⟩
  cases op <;> first | exact hf.elim | trivial

theorem advance_thread {P : Prog} {s : Pcs} (hr : Reach P s) {t : Nat} (htl : t < P.threads.length)
    (k : Nat) (hsp : 0 < k → spawned P s t)
    (hfree : ∀ j, j < k → ∃ op, opAt P t (pc s t + j) = some op ∧ freeOp op) :
    ∃ s', Reach P s' ∧ pc s' t = pc s t + k ∧ (∀ u, u ≠ t → pc s' u = pc s u) := by
  induction k with
  | zero => exact ⟨s, hr, rfl, fun _ _ => rfl⟩
  | succ k ih =>
    obtain ⟨s', hr', hpc, hoth⟩ := ih (fun _ => hsp (Nat.succ_pos k)) fun j hj => hfree j (Nat.lt_succ_of_lt hj)
    obtain ⟨op, hop, hf⟩ := hfree k (Nat.lt_succ_self k)
    -- the other counters have not moved, so `t` is still spawned
    have hsp' : spawned P s' t := (hsp (Nat.succ_pos k)).elim Or.inl fun ⟨j, hj, hlt⟩ =>
      (Nat.eq_zero_or_pos t).imp id fun ht => ⟨j, hj, by rw [hoth 0 (Nat.ne_of_lt ht)]; exact hlt⟩
    refine ⟨bump s' t, .step hr' (enabled_of_free htl (hpc ▸ hop) hsp' hf), ?_, fun u hu => ?_⟩
    · rw [pc_bump_self (by rw [reach_length hr']; exact htl), hpc, Nat.add_assoc]
    · rw [pc_bump_other hu, hoth u hu]

/-- the threads are driven to their targets one after the other, main thread first: a goroutine with a
    non-trivial target finds its spawn already executed -/
theorem reach_targets {P : Prog} (target : Nat → Nat)
    (hfree : ∀ t, t < P.threads.length → ∀ j, j < target t → ∃ op, opAt P t j = some op ∧ freeOp op)
    (hspawn : ∀ g, 0 < g → g < P.threads.length → 0 < target g → ∃ j, opAt P 0 j = some (.spawn g) ∧ j < target 0) :
    ∀ n, n ≤ P.threads.length → ∃ s, Reach P s ∧ (∀ t, t < n → pc s t = target t) ∧ (∀ t, n ≤ t → pc s t = 0) := by
  intro n
  induction n with
  | zero => exact fun _ => ⟨_, Reach.init, fun t ht => absurd ht (Nat.not_lt_zero t), fun t _ => init_pc _ t⟩
  | succ n ih =>
    intro hn
    obtain ⟨s, hr, hdone, hrest⟩ := ih (Nat.le_of_succ_le hn)
    have hpc0 : pc s n = 0 := hrest n (Nat.le_refl _)
    have hsp : 0 < target n → spawned P s n := fun hpos =>
      (Nat.eq_zero_or_pos n).imp id fun hn0 =>
        let ⟨j, hj, hjlt⟩ := hspawn n hn0 hn hpos
        ⟨j, hj, by rw [hdone 0 hn0]; exact hjlt⟩
    obtain ⟨s', hr', hpc', hoth⟩ := advance_thread hr hn (target n) hsp
      fun j hj => by rw [hpc0, Nat.zero_add]; exact hfree n hn j hj
    rw [hpc0, Nat.zero_add] at hpc'
    refine ⟨s', hr', fun t ht => ?_, fun t ht => by rw [hoth t (Nat.ne_of_gt ht)]; exact hrest t (Nat.le_of_succ_le ht)⟩
    by_cases htn : t = n
    · rw [htn]; exact hpc'
    · rw [hoth t htn]; exact hdone t (Nat.lt_of_le_of_ne (Nat.le_of_lt_succ ht) htn)

/-- **C05, Tier 1 half**: if every thread's target is preceded only by free ops and every goroutine
    with a non-trivial target is spawned within the main thread's target, then there is an execution reaching
    all targets simultaneously. -/
theorem all_targets_reachable {P : Prog} (target : Nat → Nat) (h0 : 0 < P.threads.length)
    (hfree : ∀ t, t < P.threads.length → ∀ j, j < target t → ∃ op, opAt P t j = some op ∧ freeOp op)
    (hspawn : ∀ g, 0 < g → g < P.threads.length → 0 < target g → ∃ j, opAt P 0 j = some (.spawn g) ∧ j < target 0) :
    ∃ s, Reach P s ∧ ∀ t, t < P.threads.length → pc s t = target t :=
  let ⟨s, hr, hall, _⟩ := reach_targets target hfree hspawn P.threads.length (Nat.le_refl _)
  ⟨s, hr, hall⟩

theorem free_of_flatMap_noargs {l : List NodeInfo} (h : ∀ m ∈ l, m.args = []) {op : Op}
    (hop : op ∈ l.flatMap block) : freeOp op := by
  obtain ⟨m, hm, hb⟩ := List.mem_flatMap.mp hop
  rcases mem_block.mp hb with ⟨_, hv, _⟩ | rfl | rfl | ⟨_, _, rfl⟩
  · rw [h m hm] at hv; cases hv
  all_goals exact True.intro

theorem free_prefix {L A R : List Op} {x : Op} (hL : L = A ++ x :: R) (hA : ∀ op ∈ A, freeOp op) (hx : freeOp x) :
    L[A.length]? = some x ∧ ∀ j, j < A.length + 1 → ∃ op, L[j]? = some op ∧ freeOp op := by
  have hx' : L[A.length]? = some x := by rw [hL, List.getElem?_append_right (Nat.le_refl _), Nat.sub_self]; rfl
  refine ⟨hx', fun j hj => ?_⟩
  rcases Nat.lt_succ_iff_lt_or_eq.mp hj with hlt | rfl
  · exact ⟨A[j], by rw [hL, List.getElem?_append_left hlt, List.getElem?_eq_getElem hlt], hA _ (List.getElem_mem hlt)⟩
  · exact ⟨x, hx', hx⟩

/-- the position every thread is driven to: behind the spawns, and behind the `enter` of its first marked node -/
def ovTarget (isT : Nat → Bool) (main : List NodeInfo) (gos : List (List NodeInfo)) (t : Nat) : Nat :=
  (spawnsOf gos t).length +
    if (threadNodes main gos t).any (fun nd => isT nd.id) then
      (((threadNodes main gos t).takeWhile (fun nd => !isT nd.id)).flatMap block).length + 1
    else 0

theorem ovTarget_split {isT : Nat → Bool} {main : List NodeInfo} {gos : List (List NodeInfo)} {t : Nat}
    {pre post : List NodeInfo} {a : NodeInfo} (hl : threadNodes main gos t = pre ++ a :: post)
    (ha : isT a.id = true) (hp : ∀ m ∈ pre, isT m.id = false) :
    ovTarget isT main gos t = (spawnsOf gos t).length + (pre.flatMap block).length + 1 := by
  rw [ovTarget, hl, if_pos (List.any_eq_true.mpr ⟨a, List.mem_append_right _ (List.mem_cons_self ..), ha⟩),
    List.takeWhile_append_of_pos (fun m hm => by rw [hp m hm]; rfl),
    List.takeWhile_cons_of_neg (by rw [ha]; exact Bool.false_ne_true), List.append_nil, Nat.add_assoc]

/-- thread `t` up to its target, when `a` is its first marked node -/
theorem ovTarget_enter {isT : Nat → Bool} {main : List NodeInfo} {gos : List (List NodeInfo)} (rv : Nat) {t : Nat}
    {pre post : List NodeInfo} {a : NodeInfo} (hl : threadNodes main gos t = pre ++ a :: post) (ha : isT a.id = true)
    (haa : a.args = []) (hpre : ∀ m ∈ pre, isT m.id = false ∧ m.args = []) :
    ∃ j, ovTarget isT main gos t = j + 1 ∧ opAt (emit main gos rv) t j = some (.enter a.id []) ∧
      ∀ i, i < j + 1 → ∃ op, opAt (emit main gos rv) t i = some op ∧ freeOp op := by
  have hfree : ∀ op ∈ spawnsOf gos t ++ pre.flatMap block, freeOp op := fun op hop =>
    (List.mem_append.mp hop).elim
      (fun h => by cases t with
        | zero => obtain ⟨_, _, rfl⟩ := mem_spawns.mp h; exact True.intro
        | succ g => cases h)
      (free_of_flatMap_noargs fun m hm => (hpre m hm).2)
  obtain ⟨sfx, hth⟩ := thread_emit_blocks main gos rv t
  have hth' : thread (emit main gos rv) t = (spawnsOf gos t ++ pre.flatMap block) ++
      Op.enter a.id [] :: (exitOf a :: closesOf a ++ post.flatMap block ++ sfx) := by
    rw [hth, hl, List.flatMap_append, List.flatMap_cons, block_noargs haa, enterOf, haa]
    simp only [List.append_assoc, List.cons_append, List.map_nil]
  exact ⟨_, by rw [ovTarget_split hl ha fun m hm => (hpre m hm).1, List.length_append],
    free_prefix hth' hfree True.intro⟩

theorem ovTarget_cases (isT : Nat → Bool) (main : List NodeInfo) (gos : List (List NodeInfo)) (t : Nat) :
    ovTarget isT main gos t = (spawnsOf gos t).length ∨
      ∃ pre a post, threadNodes main gos t = pre ++ a :: post ∧ isT a.id = true ∧ ∀ m ∈ pre, isT m.id = false := by
  cases h : (threadNodes main gos t).find? (fun nd => isT nd.id) with
  | none =>
    refine Or.inl ?_
    rw [ovTarget, if_neg, Nat.add_zero]
    rintro hany
    obtain ⟨x, hx, hxt⟩ := List.any_eq_true.mp hany
    exact List.find?_eq_none.mp h x hx hxt
  | some a =>
    obtain ⟨ha, pre, post, hl, hp⟩ := List.find?_eq_some_iff_append.mp h
    exact Or.inr ⟨pre, a, post, hl, ha, fun m hm => by have := hp m hm; rwa [Bool.not_eq_true'] at this⟩

/-- **Overlap for emitted programs.**  If in every thread each marked node has no arguments and is preceded
    only by unmarked nodes without arguments, then some reachable state has every marked node of every thread
    inside its call (its argument-less `enter` is the last op executed by its thread). -/
theorem overlap_emit (isT : Nat → Bool) (main : List NodeInfo) (gos : List (List NodeInfo)) (rv : Nat)
    (hz : ∀ t pre a post, threadNodes main gos t = pre ++ a :: post → isT a.id = true →
      a.args = [] ∧ ∀ m ∈ pre, isT m.id = false ∧ m.args = []) :
    ∃ s, Reach (emit main gos rv) s ∧
      ∀ t a, a ∈ threadNodes main gos t → isT a.id = true →
        ∃ j, opAt (emit main gos rv) t j = some (.enter a.id []) ∧ pc s t = j + 1 := by
  have hlen := emit_length main gos rv
  have hfree : ∀ t, t < (emit main gos rv).threads.length → ∀ j, j < ovTarget isT main gos t →
      ∃ op, opAt (emit main gos rv) t j = some op ∧ freeOp op := by
    intro t _ j hj
    rcases ovTarget_cases isT main gos t with he | ⟨pre, a, post, hl, ha, _⟩
    · -- no marked node: a spawn of the main thread
      rw [he] at hj
      cases t with
      | zero => exact ⟨_, opAt_emit_spawn main gos rv (by rwa [spawnsOf, spawns_length] at hj), True.intro⟩
      | succ g => exact absurd hj (Nat.not_lt_zero _)
    · obtain ⟨_, hA, _, hAfree⟩ := ovTarget_enter rv hl ha (hz t pre a post hl ha).1 (hz t pre a post hl ha).2
      exact hAfree j (hA ▸ hj)
  have hspawn : ∀ g, 0 < g → g < (emit main gos rv).threads.length → 0 < ovTarget isT main gos g →
      ∃ j, opAt (emit main gos rv) 0 j = some (.spawn g) ∧ j < ovTarget isT main gos 0 := by
    intro g hg0 hgl _
    rw [hlen] at hgl
    obtain ⟨g', rfl⟩ : ∃ g', g = g' + 1 := ⟨g - 1, by omega⟩
    refine ⟨g', opAt_emit_spawn main gos rv (Nat.lt_of_succ_lt_succ hgl), ?_⟩
    rw [ovTarget, spawnsOf, spawns_length]
    exact Nat.lt_of_lt_of_le (Nat.lt_of_succ_lt_succ hgl) (Nat.le_add_right ..)
  obtain ⟨s, hr, hpc⟩ := all_targets_reachable (P := emit main gos rv) (ovTarget isT main gos)
    (by rw [hlen]; exact Nat.succ_pos _) hfree hspawn
  refine ⟨s, hr, fun t a hat ha => ?_⟩
  obtain ⟨pre, post, hl⟩ := List.append_of_mem hat
  obtain ⟨j, hA, hop, _⟩ := ovTarget_enter rv hl ha (hz t pre a post hl ha).1 (hz t pre a post hl ha).2
  exact ⟨j, hop, by rw [hpc t (lt_of_opAt hop), hA]⟩

end T1

namespace KV

/-- some thread is inside provider node `a`: its `enter` is the last op executed (the `exit` has not happened) -/
def insideCall (P : T1.Prog) (s : T1.Pcs) (a : Nat) : Prop :=
  ∃ t j args, T1.opAt P t j = some (.enter a args) ∧ T1.pc s t = j + 1

/-- `a` is an emitted Async provider node without inputs -/
def ZeroAsync (p : PlanOut) (a : Nat) : Prop :=
  isAsyncNode p.g a = true ∧ p.g.rev.getD a [] = [] ∧ (a ∈ p.parent ∨ ∃ c ∈ p.chains, a ∈ c)

def zeroAsyncB (g : Graph) (n : Nat) : Bool := isAsyncNode g n && decide (g.rev.getD n [] = [])

theorem zeroAsyncB_true {g : Graph} {n : Nat} :
    zeroAsyncB g n = true ↔ isAsyncNode g n = true ∧ g.rev.getD n [] = [] := by
  simp only [zeroAsyncB, Bool.and_eq_true, decide_eq_true_eq]

theorem nodeInfo_args_nil {g : Graph} {b : BuildOut} {parent : List Nat} {chains : List (List Nat)}
    (hok : PlanOK g b parent chains) {n : Nat} (hn : n ∈ topoOrder g) (hz : g.rev.getD n [] = []) :
    (nodeInfo b n).args = [] := by
  have h0 : (b.nodeArgs.getD n []).length = 0 := by rw [hok.nodeArgs_length (hok.order_lt n hn), hz]; rfl
  rw [nodeInfo, List.eq_nil_of_length_eq_zero h0]; rfl

/-- **C05, overlap.**  For the program emitted for any accepted declaration there is a reachable state in
    which every emitted input-free Async provider is inside its provider function — all of them at the same
    time. -/
theorem C05_overlap {provs : List PSpec} {ret : Nat} {p : PlanOut} (h : plan provs ret = .ok p) :
    ∃ s, T1.Reach (emitted p) s ∧ ∀ a, ZeroAsync p a → insideCall (emitted p) s a := by
  have hok := plan_planOK h
  have hz : ∀ t pre a post,
      T1.threadNodes (p.parent.map (nodeInfo p.b)) (p.chains.map (·.map (nodeInfo p.b))) t = pre ++ a :: post →
      zeroAsyncB p.g a.id = true →
      a.args = [] ∧ ∀ m ∈ pre, zeroAsyncB p.g m.id = false ∧ m.args = [] := by
    intro t pre a post hsplit ha
    obtain ⟨i, hi⟩ := hok.thread_eq_pool t
    have hord : ∀ m ∈ p.b.pools.getD i [], m ∈ topoOrder p.g := fun m hm => (hok.thread_sublist t).subset (hi ▸ hm)
    rw [threadNodes_map, hi] at hsplit
    obtain ⟨l₁, l₂, hl, rfl, hl₂⟩ := List.map_eq_append_iff.mp hsplit
    obtain ⟨a', post', rfl, rfl, _⟩ := List.map_eq_cons_iff.mp hl₂
    have ha' : isAsyncNode p.g a' = true ∧ p.g.rev.getD a' [] = [] := zeroAsyncB_true.mp ha
    rw [hl] at hord
    refine ⟨nodeInfo_args_nil hok (hord a' (List.mem_append_right _ (List.mem_cons_self ..))) ha'.2, ?_⟩
    intro m hm
    obtain ⟨m', hm', rfl⟩ := List.mem_map.mp hm
    obtain ⟨hna, hzr⟩ := plan_zfirst h hl ha'.1 ha'.2 m' hm'
    refine ⟨?_, nodeInfo_args_nil hok (hord m' (List.mem_append_left _ hm')) hzr⟩
    show zeroAsyncB p.g m' = false
    simp only [zeroAsyncB, hna, Bool.false_and]
  obtain ⟨s, hr, hall⟩ := T1.overlap_emit (zeroAsyncB p.g) (p.parent.map (nodeInfo p.b))
    (p.chains.map (·.map (nodeInfo p.b))) p.b.retParam hz
  refine ⟨s, hr, ?_⟩
  intro a ⟨hasync, hzero, hemit⟩
  obtain ⟨t, ht⟩ := mem_threads.mpr hemit
  obtain ⟨j, hop, hpc⟩ := hall t (nodeInfo p.b a) (mem_threadNodes.mpr ⟨a, ht, rfl⟩) (zeroAsyncB_true.mpr ⟨hasync, hzero⟩)
  exact ⟨t, j, [], hop, hpc⟩

/-! ### the hypotheses are satisfiable, non-trivially -/

/-- two Async providers without inputs feeding a synchronous one -/
def c05Example : List PSpec :=
  [{ provides := [[1]], isAsync := true }, { provides := [[2]], isAsync := true },
   { requires := [1, 2], provides := [[3]] }]

def c05ExampleSummary : Option (List Nat × List (List Nat) × Bool × Bool) :=
  match plan c05Example 3 with
  | .ok p => some (p.parent, p.chains, zeroAsyncB p.g 1, zeroAsyncB p.g 2)
  | .error _ => none

/-- the declaration is accepted, and nodes 1 and 2 (in different threads) are both `ZeroAsync` -/
theorem c05Example_zeroAsync : ∃ p, plan c05Example 3 = .ok p ∧ ZeroAsync p 1 ∧ ZeroAsync p 2 := by
  have h : c05ExampleSummary = some ([1, 0], [[2]], true, true) := by decide
  unfold c05ExampleSummary at h
  split at h
  · rename_i p hp
    simp only [Option.some.injEq, Prod.mk.injEq] at h
    obtain ⟨hpar, hch, h1, h2⟩ := h
    refine ⟨p, hp, ?_, ?_⟩
    · obtain ⟨ha, hz⟩ := zeroAsyncB_true.mp h1
      exact ⟨ha, hz, Or.inl (by rw [hpar]; decide)⟩
    · obtain ⟨ha, hz⟩ := zeroAsyncB_true.mp h2
      exact ⟨ha, hz, Or.inr ⟨[2], by rw [hch]; decide, by decide⟩⟩
  · cases h

/-- hence some execution has both providers inside their calls at once -/
example : ∃ p s, plan c05Example 3 = .ok p ∧ T1.Reach (emitted p) s ∧
    insideCall (emitted p) s 1 ∧ insideCall (emitted p) s 2 := by
  obtain ⟨p, hp, h1, h2⟩ := c05Example_zeroAsync
  obtain ⟨s, hr, hall⟩ := C05_overlap hp
  exact ⟨p, s, hp, hr, hall 1 h1, hall 2 h2⟩

end KV
