import KV.EmitF
import KV.DataFlow
/-! The program the generator emits for an accepted declaration, **with** the failure / cancellation flags
    (`T1F.Prog`), and Tier 2 for the `T1F` semantics: for every `plan provs ret = .ok p`,
    `T1F.WFData`, `T1F.MainShape`, `T1F.RetShape` hold unconditionally and `T1F.WF` holds exactly when every
    wait is ctx-aware (`AllWaitsCtxAware p`, a decidable predicate on `PlanOut`). -/
namespace KV

/-- an `exit` is fallible iff the node's provider returns `error` -/
def fallibleOf (p : PlanOut) (n : Nat) : Bool :=
  (p.g.provs.getD (p.g.nodes.getD n default).prov default).isErr

/-- the flags of the real generator:
    a wait is ctx-aware iff the injector has a context parameter (`hasAsyncNodes p.g`) and
    (the wait is in a goroutine or the injector returns `error`); `retErr = p.b.isErr`. -/
def planFlags (p : PlanOut) : T1F.Flags :=
  { fallible := fallibleOf p
    ctxMain := hasAsyncNodes p.g && p.b.isErr
    ctxGo := hasAsyncNodes p.g
    retErr := p.b.isErr }

/-- the abstract program emitted for an accepted declaration, failure semantics -/
def emittedF (p : PlanOut) : T1F.Prog :=
  T1F.emitF (planFlags p) (p.parent.map (nodeInfo p.b)) (p.chains.map (·.map (nodeInfo p.b))) p.b.retParam

theorem eraseFlags_emittedF (p : PlanOut) : T1F.eraseFlags (emittedF p) = emitted p :=
  T1F.eraseFlags_emitF _ _ _ _

theorem emittedF_retErr (p : PlanOut) : (emittedF p).retErr = p.b.isErr := rfl

theorem emittedF_length (p : PlanOut) : (emittedF p).threads.length = p.chains.length + 1 := by
  simp only [emittedF, T1F.emitF_length, List.length_map]

/-- rank certificate: Kahn position of the owning node (flags do not matter) -/
def rankOfPlanF (p : PlanOut) : T1F.Op → Nat := fun op => rankOfPlan p (T1F.eraseOp op)

theorem emittedF_exit_flag {p : PlanOut} {t o : Nat} {rets : List Nat} {f : Bool}
    (h : T1F.Op.exit o rets f ∈ T1F.thread (emittedF p) t) : f = fallibleOf p o :=
  T1F.emitF_exit_flag h

/-- the flags of the waits: main thread `hasAsyncNodes ∧ isErr`, goroutines `hasAsyncNodes` -/
theorem emittedF_wait_flag {p : PlanOut} {t o c : Nat} {k : Bool}
    (h : T1F.Op.wait o c k ∈ T1F.thread (emittedF p) t) :
    k = (if t = 0 then hasAsyncNodes p.g && p.b.isErr else hasAsyncNodes p.g) :=
  (T1F.emitF_wait_flag h).trans (by cases t <;> rfl)

/-- the main thread contains a wait -/
def mainHasWait (p : PlanOut) : Bool :=
  p.parent.any (fun n => (nodeInfo p.b n).args.any (·.2))

/-- some goroutine contains a wait -/
def goHasWait (p : PlanOut) : Bool :=
  p.chains.any (fun c => c.any (fun n => (nodeInfo p.b n).args.any (·.2)))

/-- **every wait of the emitted code is ctx-aware** (decidable, on the plan):
    the main thread has no wait unless the injector has a context parameter and returns `error`;
    no goroutine has a wait unless the injector has a context parameter. -/
def AllWaitsCtxAware (p : PlanOut) : Bool :=
  ((hasAsyncNodes p.g && p.b.isErr) || !mainHasWait p) && (hasAsyncNodes p.g || !goHasWait p)

/-- the weaker half: the waits of the goroutines are ctx-aware -/
def GoWaitsCtxAware (p : PlanOut) : Bool := hasAsyncNodes p.g || !goHasWait p

theorem goWaits_of_allWaits {p : PlanOut} (h : AllWaitsCtxAware p = true) : GoWaitsCtxAware p = true := by
  simp only [AllWaitsCtxAware, Bool.and_eq_true] at h
  exact h.2

theorem hasWait_plan (p : PlanOut) (t : Nat) :
    T1F.hasWait (p.parent.map (nodeInfo p.b)) (p.chains.map (·.map (nodeInfo p.b))) t =
      (tnodes p t).any (fun n => (nodeInfo p.b n).args.any (·.2)) := by
  rw [T1F.hasWait, threadNodes_map, List.any_map]; rfl

theorem goHasWait_iff (p : PlanOut) :
    goHasWait p = true ↔
      ∃ g, T1F.hasWait (p.parent.map (nodeInfo p.b)) (p.chains.map (·.map (nodeInfo p.b))) (g + 1) = true := by
  simp only [hasWait_plan, goHasWait, tnodes, List.getD_cons_succ, List.any_eq_true]
  constructor
  · rintro ⟨c, hc, n, hn, h⟩
    exact (List.exists_mem_getD.mpr ⟨c, hc, hn⟩).imp fun g hg => ⟨n, hg, h⟩
  · rintro ⟨g, n, hn, h⟩
    exact (List.exists_mem_getD.mp ⟨g, hn⟩).imp fun c hc => ⟨hc.1, n, hc.2, h⟩

/-- `AllWaitsCtxAware` is **exactly** the field `waitsCtx` of `T1F.WF` for the emitted program (so it is the
    weakest hypothesis under which `T1F.WF (emittedF p)` can hold). -/
theorem allWaitsCtxAware_iff (p : PlanOut) :
    AllWaitsCtxAware p = true ↔
      ∀ t o c k, T1F.Op.wait o c k ∈ T1F.thread (emittedF p) t → k = true := by
  have himp : ∀ a b : Bool, (a || !b) = true ↔ (b = true → a = true) := by decide
  unfold emittedF
  simp only [T1F.emitF_waitsCtx_iff]
  rw [AllWaitsCtxAware, Bool.and_eq_true, himp, himp, goHasWait_iff]
  exact ⟨fun ⟨hm, hg⟩ t ht => by
      cases t with
      | zero => exact hm ((hasWait_plan p 0).symm.trans ht)
      | succ g => exact hg ⟨g, ht⟩,
    fun h => ⟨fun hm => h 0 ((hasWait_plan p 0).trans hm), fun ⟨g, hg⟩ => h (g + 1) hg⟩⟩

theorem allWaitsCtxAware_of_async {p : PlanOut} (hasync : hasAsyncNodes p.g = true)
    (hmain : p.b.isErr = true ∨ mainHasWait p = false) : AllWaitsCtxAware p = true := by
  simp only [AllWaitsCtxAware, hasync, Bool.true_and, Bool.true_or, Bool.and_true, Bool.or_eq_true,
    Bool.not_eq_true']
  exact hmain

/-- an accepted declaration without goroutines has no wait in its main thread: a waited argument is produced in
    another thread (`PlanOK.arg_producer`), and there is none -/
theorem plan_no_chains_no_wait {provs : List PSpec} {ret : Nat} {p : PlanOut} (h : plan provs ret = .ok p)
    (hc : p.chains = []) : mainHasWait p = false ∧ goHasWait p = false := by
  refine ⟨Bool.eq_false_iff.mpr fun hm => ?_, by simp [goHasWait, hc]⟩
  have hp := plan_planOK h
  obtain ⟨m, hmp, hm⟩ := List.any_eq_true.mp hm
  obtain ⟨⟨v, w⟩, hvw, rfl⟩ := List.any_eq_true.mp hm
  obtain ⟨hwc, a, ha, rfl, hw⟩ := mem_nodeInfo_args.mp hvw
  obtain ⟨t', n, hn, _, _, hiff, _⟩ := hp.arg_producer (t := 0) hmp ha (hp.chan_not_arg hwc)
  cases t' with
  | zero => exact hiff.mp hw rfl
  | succ g => rw [hc] at hn; cases hn

/-- `AllWaitsCtxAware` from a condition on the declaration's side: (`isErr` or the main thread has no wait) and
    (`hasAsyncNodes` or there is no goroutine). -/
theorem allWaitsCtxAware_of_side {provs : List PSpec} {ret : Nat} {p : PlanOut} (h : plan provs ret = .ok p)
    (hmain : p.b.isErr = true ∨ mainHasWait p = false) (hgo : hasAsyncNodes p.g = true ∨ p.chains = []) :
    AllWaitsCtxAware p = true := by
  rcases hgo with hasync | hc
  · exact allWaitsCtxAware_of_async hasync hmain
  · obtain ⟨h1, h2⟩ := plan_no_chains_no_wait h hc
    simp [AllWaitsCtxAware, h1, h2]

theorem emittedF_mainShape (p : PlanOut) : T1F.MainShape (emittedF p) := T1F.emitF_mainShape _ _ _ _

theorem emittedF_retShape (p : PlanOut) : T1F.RetShape (emittedF p) := T1F.emitF_retShape _ _ _ _

theorem emittedF_mainOnly (p : PlanOut) : T1F.MainOnly (emittedF p) := T1F.emitF_mainOnly _ _ _ _

theorem plan_wf_erase {provs : List PSpec} {ret : Nat} {p : PlanOut} (h : plan provs ret = .ok p) :
    T1.WF (T1F.eraseFlags (emittedF p)) (rankOfPlan p) ∧
    T1.WFData (T1F.eraseFlags (emittedF p)) (rankOfPlan p) (isParamOf p.b) := by
  rw [eraseFlags_emittedF]; exact plan_wf h

theorem plan_wfdataF {provs : List PSpec} {ret : Nat} {p : PlanOut} (h : plan provs ret = .ok p) :
    T1F.WFData (emittedF p) (rankOfPlanF p) (isParamOf p.b) :=
  T1F.wfdata_of_erase (plan_wf_erase h).2

/-- the part of `T1F.WF` that the data-flow theorem needs; no side condition -/
theorem plan_sortedF {provs : List PSpec} {ret : Nat} {p : PlanOut} (h : plan provs ret = .ok p) :
    ∀ t, (T1F.thread (emittedF p) t).Pairwise (fun a b => rankOfPlanF p a ≤ rankOfPlanF p b) :=
  T1F.sorted_of_erase (plan_wf_erase h).1.sorted

theorem plan_wfF {provs : List PSpec} {ret : Nat} {p : PlanOut} (h : plan provs ret = .ok p)
    (hctx : AllWaitsCtxAware p = true) : T1F.WF (emittedF p) (rankOfPlanF p) :=
  T1F.wf_of_erase (plan_wf_erase h).1 (fun _ => Nat.succ_pos _) (emittedF_mainOnly p) ((allWaitsCtxAware_iff p).mp hctx)

/-- conversely, `T1F.WF` of the emitted program forces the side condition: it is the weakest possible one -/
theorem allWaitsCtxAware_of_wfF {p : PlanOut} {rank : T1F.Op → Nat} (hw : T1F.WF (emittedF p) rank) :
    AllWaitsCtxAware p = true :=
  (allWaitsCtxAware_iff p).mpr hw.waitsCtx

/-- the four facts together -/
theorem plan_wfF_all {provs : List PSpec} {ret : Nat} {p : PlanOut} (h : plan provs ret = .ok p)
    (hctx : AllWaitsCtxAware p = true) :
    T1F.WF (emittedF p) (rankOfPlanF p) ∧ T1F.WFData (emittedF p) (rankOfPlanF p) (isParamOf p.b) ∧
    T1F.MainShape (emittedF p) ∧ T1F.RetShape (emittedF p) :=
  ⟨plan_wfF h hctx, plan_wfdataF h, emittedF_mainShape p, emittedF_retShape p⟩

end KV
