import KV.Kahn
/-! A lower bound on the pool count computed by `findMaximumAntichainSize` (`maxAntichain`: the number of nodes
    minus the size of the matching found by Kuhn's algorithm): at least the number of nodes that have no incoming
    edge.  Only this bound — not maximality of the matching — is needed for C05. -/
namespace KV

def cnt (m : List (Option Nat)) : Nat := m.countP Option.isSome

def hasIn (adj : List (List Nat)) (v : Nat) : Prop := ∃ u, v ∈ adj.getD u []

/-- `m'` is the matching `m` with `k` more right vertices matched, each of which has an incoming edge -/
structure Grow (adj : List (List Nat)) (m m' : List (Option Nat)) (k : Nat) : Prop where
  len : m'.length = m.length
  mono : ∀ v, (m.getD v none).isSome = true → (m'.getD v none).isSome = true
  newIn : ∀ v, (m'.getD v none).isSome = true → (m.getD v none).isSome = true ∨ hasIn adj v
  cnt : cnt m' = cnt m + k

theorem Grow.refl (adj : List (List Nat)) (m : List (Option Nat)) : Grow adj m m 0 :=
  ⟨rfl, fun _ h => h, fun _ h => Or.inl h, rfl⟩

theorem Grow.trans {adj : List (List Nat)} {m₁ m₂ m₃ : List (Option Nat)} {j k : Nat}
    (h₁ : Grow adj m₁ m₂ j) (h₂ : Grow adj m₂ m₃ k) : Grow adj m₁ m₃ (j + k) :=
  ⟨h₂.len.trans h₁.len, fun v h => h₂.mono v (h₁.mono v h),
   fun v h => (h₂.newIn v h).elim (h₁.newIn v) Or.inr, by rw [h₂.cnt, h₁.cnt, Nat.add_assoc]⟩

theorem Grow.set {adj : List (List Nat)} {m : List (Option Nat)} {v : Nat} (u : Nat) (hv : v < m.length)
    (hin : hasIn adj v) : Grow adj m (m.set v (some u)) (if (m.getD v none).isSome then 0 else 1) where
  len := List.length_set
  mono x hx := by
    rw [List.getD_set]
    split
    · rfl
    · exact hx
  newIn x hx := by
    rw [List.getD_set] at hx
    split at hx
    · rename_i hc; exact Or.inr (hc.1 ▸ hin)
    · exact Or.inl hx
  cnt := by
    show List.countP _ _ = List.countP _ _ + _
    rw [List.countP_set hv, ← List.getD_eq_getElem none hv, Option.isSome_some, if_pos rfl]
    split
    · have : 0 < m.countP Option.isSome := List.countP_pos_iff.mpr ⟨_, List.getD_mem_of_lt none hv, ‹_›⟩
      omega
    · rfl

theorem findAugU_spec (adj : List (List Nat)) :
    ∀ (fuel u : Nat) (vs : List Nat) (used : List Bool) (m : List (Option Nat)),
      (∀ v ∈ vs, hasIn adj v) → (∀ v, hasIn adj v → v < m.length) →
      Grow adj m (findAugU adj fuel u vs used m).2.2 (if (findAugU adj fuel u vs used m).1 then 1 else 0) := by
  intro fuel
  induction fuel with
  | zero => intro u vs used m _ _; exact Grow.refl adj m
  | succ k ih =>
    intro u vs used m hvs hall
    cases vs with
    | nil => exact Grow.refl adj m
    | cons v vs =>
      have hvin := hvs v (List.mem_cons_self ..)
      have hv := hall v hvin
      have hvs' : ∀ x ∈ vs, hasIn adj x := fun x hx => hvs x (List.mem_cons_of_mem _ hx)
      simp only [findAugU]
      split
      · exact ih u vs used m hvs' hall
      · split
        · -- `v` is free: match it
          rename_i hnone
          have := Grow.set u hv hvin
          rwa [hnone] at this
        · -- `v` is matched to `w`: try to re-route `w`
          rename_i w hsome
          have hrec := ih w (adj.getD w []) (used.set v true) m (fun x hx => ⟨w, hx⟩) hall
          split
          · -- re-routed: `v`, still matched in the new matching, changes its partner
            rename_i hok
            rw [if_pos hok] at hrec
            have := hrec.trans (Grow.set u (hrec.len ▸ hv) hvin)
            rw [hrec.mono v (by rw [hsome]; rfl)] at this
            exact this
          · -- not re-routed: go on with the other neighbours of `u`
            rename_i hok
            rw [if_neg hok] at hrec
            generalize findAugU adj k w (adj.getD w []) (used.set v true) m = r at hrec ⊢
            have := hrec.trans (ih u vs r.2.1 r.2.2 hvs' fun x hx => hrec.len ▸ hall x hx)
            rwa [Nat.zero_add] at this

theorem cnt_add_none_le (m : List (Option Nat)) (q : Nat → Bool)
    (h : ∀ v, v < m.length → q v = true → m.getD v none = none) :
    cnt m + ((List.range m.length).filter q).length ≤ m.length := by
  have hm : (List.range m.length).map (m.getD · none) = m :=
    List.ext_getElem (by simp) fun i h1 _ => by
      rw [List.getElem_map, List.getElem_range, List.getD_eq_getElem none (by simpa using h1)]
  have h1 := List.length_eq_countP_add_countP Option.isSome (l := m)
  have h2 : (List.range m.length).countP q ≤ m.countP (fun a => decide ¬ a.isSome = true) := by
    conv => rhs; rw [← hm, List.countP_map]
    refine List.countP_mono_left fun v hv hq => ?_
    show decide (¬ (m.getD v none).isSome = true) = true
    rw [h v (List.mem_range.mp hv) hq]
    rfl
  rw [List.countP_eq_length_filter] at h2
  unfold cnt
  omega

def adjOf (g : Graph) : List (List Nat) := g.edges.map (·.map (·.dst))

theorem mem_adjOf {g : Graph} {u v : Nat} (h : v ∈ (adjOf g).getD u []) : ∃ e ∈ g.edges.getD u [], e.dst = v := by
  rw [adjOf, show ([] : List Nat) = ([] : List Edge).map (·.dst) from rfl, List.getD_map] at h
  obtain ⟨e, he, rfl⟩ := List.mem_map.mp h
  exact ⟨e, he, rfl⟩

structure GoInv (g : Graph) (m : List (Option Nat)) (size : Nat) : Prop where
  len : m.length = g.nodes.length
  sum : size + cnt m = g.nodes.length
  inOnly : ∀ v, (m.getD v none).isSome = true → hasIn (adjOf g) v

/-- a matched node has an incoming edge, hence a dependency: the nodes without one are among the unmatched -/
theorem GoInv.zero_nodes_le {g : Graph} (hg : GWF g) {m : List (Option Nat)} {size : Nat} (h : GoInv g m size) :
    ((List.range g.nodes.length).filter (fun v => decide (g.rev.getD v [] = []))).length ≤ size := by
  have hbound := cnt_add_none_le m (fun v => decide (g.rev.getD v [] = [])) (by
    intro v hv hq
    have hq' : g.rev.getD v [] = [] := by simpa using hq
    cases hmv : m.getD v none with
    | none => rfl
    | some w =>
      exfalso
      obtain ⟨u, hu⟩ := h.inOnly v (by rw [hmv]; rfl)
      obtain ⟨e, he, hed⟩ := mem_adjOf hu
      have := hg.slotLt u e he
      rw [hed, hq'] at this
      exact Nat.not_lt_zero _ this)
  have hs := h.sum
  rw [h.len] at hbound
  omega

theorem maxAntichain_go_bound {g : Graph} (hg : GWF g) (fuel : Nat) :
    ∀ (k u : Nat) (m : List (Option Nat)) (size : Nat), GoInv g m size →
      ((List.range g.nodes.length).filter (fun v => decide (g.rev.getD v [] = []))).length ≤
        maxAntichain.go g.nodes.length (adjOf g) fuel k u m size := by
  intro k
  induction k with
  | zero => intro u m size h; exact h.zero_nodes_le hg
  | succ k ih =>
    intro u m size h
    simp only [maxAntichain.go]
    have hall : ∀ v, hasIn (adjOf g) v → v < m.length := by
      rintro v ⟨w, hv⟩
      obtain ⟨e, he, rfl⟩ := mem_adjOf hv
      rw [h.len]; exact hg.dstLt w e he
    have hspec := findAugU_spec (adjOf g) fuel u ((adjOf g).getD u [])
      (List.replicate g.nodes.length false) m (fun v hv => ⟨u, hv⟩) hall
    generalize findAugU (adjOf g) fuel u ((adjOf g).getD u []) (List.replicate g.nodes.length false) m = r at hspec
    obtain ⟨ok, used1, m1⟩ := r
    refine ih _ _ _ ⟨hspec.len.trans h.len, ?_, fun v hv => (hspec.newIn v hv).elim (h.inOnly v) id⟩
    have hc : cnt m1 = cnt m + if ok = true then 1 else 0 := hspec.cnt
    cases ok
    · show size + cnt m1 = g.nodes.length
      rw [hc]; exact h.sum
    · -- a success lowers `size`, which is positive then: `cnt m1 = cnt m + 1` is at most the number of nodes
      rw [if_pos rfl] at hc
      have hle : cnt m1 ≤ m1.length := List.countP_le_length
      have : m1.length = g.nodes.length := hspec.len.trans h.len
      have := h.sum
      show size - 1 + cnt m1 = g.nodes.length
      omega

/-- **pool-count lower bound**: at least as many pools as there are nodes without dependencies -/
theorem maxAntichain_ge_zero_nodes {g : Graph} (hg : GWF g) :
    ((List.range g.nodes.length).filter (fun v => decide (g.rev.getD v [] = []))).length ≤ maxAntichain g :=
  maxAntichain_go_bound hg _ _ _ _ _
    { len := List.length_replicate
      sum := by rw [cnt, List.countP_replicate]; rfl
      inOnly := fun v hv => by rw [List.getD_replicate_self] at hv; cases hv }

end KV
