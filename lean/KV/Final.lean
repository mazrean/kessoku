import KV.Assemble
import KV.Dump
/-! The stages put together: `PlanOK` for every run in which the three stages succeed over a well-formed graph, what
    a successful `plan` says about the stages, and which ops the threads of the program `emitted p` hold. -/
namespace KV

theorem depsClosed_of_sound {g : Graph} (hg : GWF2 g) (hs : SoundL g (topoOrder g)) :
    DepsClosed g (topoOrder g) := by
  intro pre m post hsplit d hd
  obtain ⟨i, hget⟩ := List.mem_iff_getElem?.mp hd
  obtain ⟨e, he, rfl, _⟩ := hg.revEdge m i d hget
  exact producer_before hg hs he hsplit

theorem poolFacts_of_build {g : Graph} (hg : GWF2 g) (k : Nat) :
    PoolFacts g (topoOrder g) (bpass1 g (topoOrder g) k).pools := by
  obtain ⟨hsound, hnd, hlt⟩ := topoOrder_sound hg.toGWF
  have h1 := bpass1_inv (g := g) (topoOrder g) k hnd hlt
  have hdc := depsClosed_of_sound hg hsound
  have hsf := bpass1_sync (g := g) (topoOrder g) k hnd hlt hdc
  refine { nodup := hnd, lt := hlt, sub := h1.sub, closed := hdc, placed := ?_, syncInit := ?_ }
  · intro hk0 n hn hna
    rw [h1.lenPools] at hk0 ⊢
    exact h1.placed n hn hna hk0
  · intro i hi hne hsync
    have hfmem := firstOf_mem hne
    obtain ⟨rest, hfcons⟩ := firstOf_cons hne
    refine isInitial_of_args hne fun d hd => ⟨?_, hsf i _ rest hfcons hsync d hd⟩
    -- `d` stands before the first node in the order
    obtain ⟨pre, post, hsplit⟩ := List.append_of_mem ((h1.sub i).subset hfmem)
    exact hlt d (by rw [hsplit]; exact List.mem_append_left _ (hdc pre _ post hsplit d hd))

/-- `Build` and `buildStmts` succeeding over a well-formed graph (for the graph of `newGraph2`, `GWF2 g` is
    `newGraph2_gwf`, `KV/DataFlow.lean`) -/
theorem stages_planOK {g : Graph} {b : BuildOut} {parent : List Nat} {chains : List (List Nat)}
    (hg : GWF2 g) (hb : build2 g = .ok b) (hs : buildStmts2 g b.pools = .ok (parent, chains)) :
    PlanOK g b parent chains := by
  obtain ⟨hsound, hnd, hlt⟩ := topoOrder_sound hg.toGWF
  obtain ⟨hret, rfl⟩ := build2_eq_buildOut hb
  have h1 := bpass1_inv (g := g) (topoOrder g) (maxAntichain g) hnd hlt
  obtain ⟨hsf, hk⟩ := stmtFacts_of_buildStmts2 (poolFacts_of_build hg _) hs
  exact ⟨hg, hsound, hnd, hlt, hret, rfl, h1.lenPools ▸ hk, h1, bpass2_inv .., hsf⟩

/-! ### `KV.plan`, the composition the driver runs and the correspondence check compares with the real planner -/

theorem plan_ok {provs : List PSpec} {ret : Nat} {p : PlanOut} (h : plan provs ret = .ok p) :
    newGraph2 provs ret = .ok p.g ∧ build2 p.g = .ok p.b ∧ buildStmts2 p.g p.b.pools = .ok (p.parent, p.chains) := by
  unfold plan at h
  simp only [bind, Except.bind, pure, Except.pure] at h
  split at h
  · cases h
  · split at h
    · cases h
    · split at h
      · cases h
      · cases h; exact ⟨‹_›, ‹_›, ‹_›⟩

theorem plan_of_stages {provs : List PSpec} {ret : Nat} {g : Graph} {b : BuildOut} {parent : List Nat}
    {chains : List (List Nat)} (hg : newGraph2 provs ret = .ok g) (hb : build2 g = .ok b)
    (hs : buildStmts2 g b.pools = .ok (parent, chains)) :
    plan provs ret = .ok { g := g, b := b, parent := parent, chains := chains } := by
  simp only [plan, bind, Except.bind, hg, hb, hs]; rfl

theorem plan_err_of_newGraph2_err {provs0 : List PSpec} {ret : Nat} {e : PlanErr}
    (h : newGraph2 provs0 ret = .error e) : plan provs0 ret = .error e := by
  simp only [plan, bind, Except.bind, h]

/-! ### the emitted program of a plan: which ops it holds -/

/-- the abstract program emitted for an accepted declaration (micro-op form, fault-free semantics) -/
def emitted (p : PlanOut) : T1.Prog := emitPlan p.b p.parent p.chains

abbrev tnodes (p : PlanOut) (t : Nat) : List Nat := (p.parent :: p.chains).getD t []

theorem emitted_eq (p : PlanOut) :
    emitted p = T1.emit (p.parent.map (nodeInfo p.b)) (p.chains.map (·.map (nodeInfo p.b))) p.b.retParam := rfl

theorem emitted_length (p : PlanOut) : (emitted p).threads.length = p.chains.length + 1 := by
  rw [emitted_eq, T1.emit_length, List.length_map]

section
variable {p : PlanOut} {t n : Nat}

theorem enter_mem_emitted {args : List Nat} :
    T1.Op.enter n args ∈ T1.thread (emitted p) t ↔
      n ∈ tnodes p t ∧ args = (p.b.nodeArgs.getD n []).map (·.param) := by
  rw [emitted_eq, T1.enter_mem_emit, exists_threadNode, nodeInfo_args_fst, eq_comm]

theorem exit_mem_emitted {rets : List Nat} :
    T1.Op.exit n rets ∈ T1.thread (emitted p) t ↔ n ∈ tnodes p t ∧ rets = p.b.nodeRets.getD n [] := by
  rw [emitted_eq, T1.exit_mem_emit, exists_threadNode, nodeInfo_rets_fst, eq_comm]

theorem wait_mem_emitted {c : Nat} :
    T1.Op.wait n c ∈ T1.thread (emitted p) t ↔ n ∈ tnodes p t ∧
      (p.b.params.getD c default).withChan = true ∧ ∃ a ∈ p.b.nodeArgs.getD n [], a.param = c ∧ a.isWait = true := by
  rw [emitted_eq, T1.wait_mem_emit, exists_threadNode, mem_nodeInfo_args]

theorem close_mem_emitted {c : Nat} :
    T1.Op.close n c ∈ T1.thread (emitted p) t ↔ n ∈ tnodes p t ∧
      (p.b.params.getD c default).withChan = true ∧ c ∈ p.b.nodeRets.getD n [] := by
  rw [emitted_eq, T1.close_mem_emit, exists_threadNode, mem_nodeInfo_rets]

end

theorem ret_mem_emitted (p : PlanOut) (v : Nat) :
    T1.Op.ret v ∈ T1.thread (emitted p) 0 ↔ v = p.b.retParam := by
  rw [emitted_eq, T1.ret_mem_emit]
  exact and_iff_right rfl

theorem main_thread_last (p : PlanOut) :
    (T1.thread (emitted p) 0).getLast? = some (.ret p.b.retParam) := by
  rw [emitted_eq, T1.thread_emit_zero, T1.mainThread_getLast?]

end KV
