import KV.ListLemmas
/-! The micro-op semantics of an injector body with provider failures, `errgroup` and cancellation: an `exit`
flagged fallible may fail and end its thread, a goroutine's first error is recorded by the errgroup and cancels
the derived context, a ctx-aware wait may leave through `ctx.Done()`, `eg.Wait` cancels when it returns, and the
caller may cancel at any time.  Proved: of every rank-certified program (`WF`) the injector is never stuck before it returns; what a result
means (`RetShape` alone); a provider is entered only after its producers returned successfully (sortedness and
`WFData`). -/
namespace T1F

inductive Op where
  | wait  (o : Nat) (c : Nat) (ctxAware : Bool)
  | enter (o : Nat) (args : List Nat)
  | exit  (o : Nat) (rets : List Nat) (fallible : Bool)
  | close (o : Nat) (c : Nat)
  | spawn (g : Nat)
  | egwait
  | ret (v : Nat)
deriving DecidableEq, Repr

inductive Err where
  | prov (o : Nat)
  | ctx
deriving DecidableEq, Repr

structure Prog where
  threads : List (List Op)       -- thread 0 is main
  retErr : Bool                  -- the injector has an error result

/-- how a thread ended -/
inductive Fin where
  | ok
  | err (e : Err)
deriving DecidableEq, Repr

structure St where
  pcs : List Nat
  fin : List (Option Fin)        -- none = still running
  egErr : Option Err
  egCanc : Bool
  callerCanc : Bool
  result : Option (Option Err)   -- main's return: some none = value, some (some e) = error

def thread (P : Prog) (t : Nat) : List Op := P.threads.getD t []
def opAt (P : Prog) (t j : Nat) : Option Op := (thread P t)[j]?
def pc (s : St) (t : Nat) : Nat := s.pcs.getD t 0
def finOf (s : St) (t : Nat) : Option Fin := s.fin.getD t none
def running (s : St) (t : Nat) : Prop := finOf s t = none
def ctxDone (s : St) : Bool := s.callerCanc || s.egCanc

def closed (P : Prog) (s : St) (c : Nat) : Prop :=
  ∃ t j o, opAt P t j = some (.close o c) ∧ j < pc s t
def spawned (P : Prog) (s : St) (g : Nat) : Prop :=
  g = 0 ∨ ∃ j, opAt P 0 j = some (.spawn g) ∧ j < pc s 0
def written (P : Prog) (s : St) (v : Nat) : Prop :=
  ∃ t j o rets f, opAt P t j = some (.exit o rets f) ∧ v ∈ rets ∧ j < pc s t

def advance (s : St) (t : Nat) : St := { s with pcs := s.pcs.set t (pc s t + 1) }

/-- thread `t` ends with outcome `f`; a goroutine error is recorded by the errgroup (first error wins, cancels) -/
def finish (s : St) (t : Nat) (f : Fin) : St :=
  let s1 := { s with fin := s.fin.set t (some f) }
  match t, f with
  | 0, .ok => s1
  | 0, .err e => { s1 with result := some (some e) }
  | _ + 1, .ok => s1
  | _ + 1, .err e => if s.egErr.isNone then { s1 with egErr := some e, egCanc := true } else s1

/-- environment: which providers fail -/
structure Env where
  fails : Nat → Bool

inductive Step (P : Prog) (env : Env) : St → St → Prop
  | waitOk {s t o c k} : t < P.threads.length → running s t → spawned P s t →
      opAt P t (pc s t) = some (.wait o c k) → closed P s c → Step P env s (advance s t)
  | waitCtx {s t o c} : t < P.threads.length → running s t → spawned P s t →
      opAt P t (pc s t) = some (.wait o c true) → ctxDone s = true → Step P env s (finish s t (.err .ctx))
  | enter {s t o args} : t < P.threads.length → running s t → spawned P s t →
      opAt P t (pc s t) = some (.enter o args) → Step P env s (advance s t)
  | exitOk {s t o rets f} : t < P.threads.length → running s t → spawned P s t →
      opAt P t (pc s t) = some (.exit o rets f) → (f && env.fails o) = false → Step P env s (advance s t)
  | exitFail {s t o rets} : t < P.threads.length → running s t → spawned P s t →
      opAt P t (pc s t) = some (.exit o rets true) → env.fails o = true → Step P env s (finish s t (.err (.prov o)))
  | close {s t o c} : t < P.threads.length → running s t → spawned P s t →
      opAt P t (pc s t) = some (.close o c) → Step P env s (advance s t)
  | spawn {s g} : running s 0 → opAt P 0 (pc s 0) = some (.spawn g) → Step P env s (advance s 0)
  | egwait {s} : running s 0 → opAt P 0 (pc s 0) = some .egwait →
      (∀ g, 0 < g → g < P.threads.length → finOf s g ≠ none) →
      Step P env s { (advance s 0) with egCanc := true }
  | ret {s v} : running s 0 → opAt P 0 (pc s 0) = some (.ret v) →
      Step P env s
        { (finish s 0 .ok) with result := some (if P.retErr then s.egErr else none) }
  | goEnd {s t} : 0 < t → t < P.threads.length → running s t → spawned P s t →
      opAt P t (pc s t) = none → Step P env s (finish s t .ok)
  | cancel {s} : Step P env s { s with callerCanc := true }

def init (P : Prog) : St :=
  { pcs := List.replicate P.threads.length 0, fin := List.replicate P.threads.length none,
    egErr := none, egCanc := false, callerCanc := false, result := none }

inductive Reach (P : Prog) (env : Env) : St → Prop
  | init : Reach P env (init P)
  | step {s s'} : Reach P env s → Step P env s s' → Reach P env s'

open KV.Threads

/-! ### counters, `finish`, positions -/

theorem pc_advance_self {s : St} {t : Nat} (h : t < s.pcs.length) : pc (advance s t) t = pc s t + 1 :=
  getD_bump_self h

theorem pc_advance_other {s : St} {t u : Nat} (h : u ≠ t) : pc (advance s t) u = pc s u :=
  List.getD_set_ne _ _ (Ne.symm h)

theorem pc_le_advance (s : St) (t u : Nat) : pc s u ≤ pc (advance s t) u := getD_le_bump _ _ _

theorem lt_pc_advance {s : St} {t : Nat} (h : t < s.pcs.length) (u j : Nat) :
    j < pc (advance s t) u ↔ j < pc s u ∨ (u = t ∧ j = pc s t) := lt_getD_bump h u j

theorem init_pc (P : Prog) (t : Nat) : pc (init P) t = 0 := List.getD_replicate_self

/-- `finish s 0 f` and `finish s (k + 1) .ok` reduce by `rfl`; this is the remaining case -/
theorem finish_go_err (s : St) (k : Nat) (e : Err) : finish s (k + 1) (.err e) =
    if s.egErr = none then { s with fin := s.fin.set (k + 1) (some (.err e)), egErr := some e, egCanc := true }
    else { s with fin := s.fin.set (k + 1) (some (.err e)) } := by
  unfold finish; cases s.egErr <;> rfl

theorem finish_frame (s : St) (t : Nat) (f : Fin) :
    (finish s t f).pcs = s.pcs ∧ (finish s t f).fin = s.fin.set t (some f) ∧
    (finish s t f).callerCanc = s.callerCanc ∧ (0 < t → (finish s t f).result = s.result) := by
  cases t with
  | zero => cases f <;> exact ⟨rfl, rfl, rfl, fun h => absurd h (Nat.lt_irrefl 0)⟩
  | succ k =>
    cases f with
    | ok => exact ⟨rfl, rfl, rfl, fun _ => rfl⟩
    | err e => rw [finish_go_err]; split <;> exact ⟨rfl, rfl, rfl, fun _ => rfl⟩

theorem finish_pcs (s : St) (t : Nat) (f : Fin) : (finish s t f).pcs = s.pcs := (finish_frame s t f).1

theorem finish_fin (s : St) (t : Nat) (f : Fin) : (finish s t f).fin = s.fin.set t (some f) := (finish_frame s t f).2.1

theorem finish_callerCanc (s : St) (t : Nat) (f : Fin) : (finish s t f).callerCanc = s.callerCanc :=
  (finish_frame s t f).2.2.1

theorem finish_result (s : St) {t : Nat} (f : Fin) (h : 0 < t) : (finish s t f).result = s.result :=
  (finish_frame s t f).2.2.2 h

theorem finish_eg (s : St) (t : Nat) (f : Fin) :
    ((0 < t → ∀ e, f = .err e → s.egErr ≠ none) ∧ (finish s t f).egErr = s.egErr ∧
      (finish s t f).egCanc = s.egCanc) ∨
    (∃ e, 0 < t ∧ f = .err e ∧ s.egErr = none ∧ (finish s t f).egErr = some e ∧ (finish s t f).egCanc = true) := by
  cases t with
  | zero => cases f <;> exact Or.inl ⟨fun h => absurd h (Nat.lt_irrefl 0), rfl, rfl⟩
  | succ k =>
    cases f with
    | ok => exact Or.inl ⟨fun _ _ => nofun, rfl, rfl⟩
    | err e =>
      rw [finish_go_err]
      split
      · next hn => exact Or.inr ⟨e, Nat.succ_pos k, rfl, hn, rfl, rfl⟩
      · next hn => exact Or.inl ⟨fun _ _ _ => hn, rfl, rfl⟩

theorem pc_finish (s : St) (t u : Nat) (f : Fin) : pc (finish s t f) u = pc s u := by
  unfold pc; rw [finish_pcs]

theorem finOf_advance (s : St) (t u : Nat) : finOf (advance s t) u = finOf s u := rfl

theorem finOf_congr {s s' : St} (h : s'.fin = s.fin) (u : Nat) : finOf s' u = finOf s u := by
  unfold finOf; rw [h]

theorem finOf_set_self {s s' : St} {t : Nat} {f : Fin} (h : s'.fin = s.fin.set t (some f)) (ht : t < s.fin.length) :
    finOf s' t = some f := by
  unfold finOf; rw [h]; exact List.getD_set_self _ _ ht

theorem finOf_set_other {s s' : St} {t u : Nat} {f : Fin} (h : s'.fin = s.fin.set t (some f)) (hu : u ≠ t) :
    finOf s' u = finOf s u := by
  unfold finOf; rw [h]; exact List.getD_set_ne _ _ (Ne.symm hu)

theorem finOf_finish_self (s : St) (t : Nat) (f : Fin) (h : t < s.fin.length) : finOf (finish s t f) t = some f :=
  finOf_set_self (finish_fin s t f) h

theorem finOf_finish_cases {s : St} {t u : Nat} {f f' : Fin} (h : finOf (finish s t f) u = some f') :
    u = t ∧ f = f' ∨ finOf s u = some f' := by
  unfold finOf at h
  rw [finish_fin, List.getD_set] at h
  split at h
  · next hc => exact Or.inl ⟨hc.1.symm, Option.some.inj h⟩
  · exact Or.inr h

theorem opAt_mem {P : Prog} {t j : Nat} {op : Op} (h : opAt P t j = some op) : op ∈ thread P t :=
  List.mem_of_getElem? h

theorem mem_opAt {P : Prog} {t : Nat} {op : Op} (h : op ∈ thread P t) : ∃ j, opAt P t j = some op :=
  List.mem_iff_getElem?.mp h

theorem thread_lt_of_mem {P : Prog} {t : Nat} {op : Op} (h : op ∈ thread P t) : t < P.threads.length :=
  List.lt_length_of_mem_getD h

theorem lt_of_opAt {P : Prog} {t j : Nat} {op : Op} (h : opAt P t j = some op) : t < P.threads.length :=
  thread_lt_of_mem (opAt_mem h)

/-! ### what a step does to the counters and to `fin`

What a run has done is read off `Step.pcs_cases` and `Step.fin_cases` (for the errgroup and the result:
`Step.eg_cases`, `Step.result_cases` further down); of the invariants only `invB_reach` goes through the eleven
rules itself. -/

/-- what lets a counter move past `op` -/
def Guard (P : Prog) (env : Env) (s : St) : Op → Prop
  | .wait _ c _ => closed P s c
  | .exit o _ f => (f && env.fails o) = false
  | .egwait => ∀ g, 0 < g → g < P.threads.length → finOf s g ≠ none
  | .ret _ => False
  | _ => True

theorem Step.pcs_cases {P : Prog} {env : Env} {s s' : St} (h : Step P env s s') :
    s'.pcs = s.pcs ∨
    ∃ t op, t < P.threads.length ∧ opAt P t (pc s t) = some op ∧ Guard P env s op ∧ s'.pcs = (advance s t).pcs := by
  cases h with
  | waitOk htl _ _ hop hcl => exact Or.inr ⟨_, _, htl, hop, hcl, rfl⟩
  | enter htl _ _ hop => exact Or.inr ⟨_, _, htl, hop, trivial, rfl⟩
  | exitOk htl _ _ hop hf => exact Or.inr ⟨_, _, htl, hop, hf, rfl⟩
  | close htl _ _ hop => exact Or.inr ⟨_, _, htl, hop, trivial, rfl⟩
  | spawn _ hop => exact Or.inr ⟨0, _, lt_of_opAt hop, hop, trivial, rfl⟩
  | egwait _ hop hall => exact Or.inr ⟨0, _, lt_of_opAt hop, hop, hall, rfl⟩
  | waitCtx | exitFail | ret | goEnd => exact Or.inl (finish_pcs _ _ _)
  | cancel => exact Or.inl rfl

theorem Step.fin_cases {P : Prog} {env : Env} {s s' : St} (h : Step P env s s') :
    s'.fin = s.fin ∨ ∃ t f, t < P.threads.length ∧ running s t ∧ s'.fin = s.fin.set t (some f) := by
  cases h with
  | waitCtx htl hrun | exitFail htl hrun | goEnd _ htl hrun => exact Or.inr ⟨_, _, htl, hrun, finish_fin _ _ _⟩
  | ret hrun hop => exact Or.inr ⟨0, _, lt_of_opAt hop, hrun, finish_fin _ _ _⟩
  | _ => exact Or.inl rfl

structure Shape (P : Prog) (s : St) : Prop where
  lenP : s.pcs.length = P.threads.length
  lenF : s.fin.length = P.threads.length

theorem shape_reach {P : Prog} {env : Env} {s : St} (h : Reach P env s) : Shape P s := by
  induction h with
  | init => exact ⟨List.length_replicate, List.length_replicate⟩
  | step _ hs ih =>
    refine ⟨?_, ?_⟩
    · rcases hs.pcs_cases with hp | ⟨_, _, _, _, _, hp⟩ <;> rw [hp]
      · exact ih.lenP
      · exact List.length_set.trans ih.lenP
    · rcases hs.fin_cases with hf | ⟨_, _, _, _, hf⟩ <;> rw [hf]
      · exact ih.lenF
      · exact List.length_set.trans ih.lenF

theorem step_pc_mono {P : Prog} {env : Env} {s s' : St} (h : Step P env s s') (u : Nat) : pc s u ≤ pc s' u := by
  unfold pc
  rcases h.pcs_cases with hp | ⟨t, _, _, _, _, hp⟩ <;> rw [hp]
  · exact Nat.le_refl _
  · exact pc_le_advance s t u

theorem closed_mono {P : Prog} {env : Env} {s s' : St} (h : Step P env s s') {c : Nat} (hc : closed P s c) :
    closed P s' c := by
  obtain ⟨t, j, o, h1, h2⟩ := hc
  exact ⟨t, j, o, h1, Nat.lt_of_lt_of_le h2 (step_pc_mono h t)⟩

theorem written_mono {P : Prog} {env : Env} {s s' : St} (h : Step P env s s') {v : Nat} (hw : written P s v) :
    written P s' v := by
  obtain ⟨t, j, o, rets, f, h1, h2, h3⟩ := hw
  exact ⟨t, j, o, rets, f, h1, h2, Nat.lt_of_lt_of_le h3 (step_pc_mono h t)⟩

theorem finOf_stable {P : Prog} {env : Env} {s s' : St} (h : Step P env s s') {u : Nat} {f : Fin}
    (hu : finOf s u = some f) : finOf s' u = some f := by
  rcases h.fin_cases with hf | ⟨t, _, _, hrun, hf⟩
  · rw [finOf_congr hf]; exact hu
  · rw [finOf_set_other hf fun e => by rw [e, hrun] at hu; cases hu]; exact hu

theorem finOf_mono {P : Prog} {env : Env} {s s' : St} (h : Step P env s s') {u : Nat}
    (hu : finOf s u ≠ none) : finOf s' u ≠ none := by
  cases hf : finOf s u with
  | none => exact absurd hf hu
  | some f => rw [finOf_stable h hf]; exact Option.some_ne_none f

theorem fin_mono {P : Prog} {env : Env} {s s' : St} (h : Step P env s s') (hsh : Shape P s) (u : Nat)
    (hu : finOf s u ≠ none) : finOf s' u ≠ none := finOf_mono h hu

theorem guard_mono {P : Prog} {env : Env} {s s' : St} (h : Step P env s s') {op : Op} (hg : Guard P env s op) :
    Guard P env s' op := by
  cases op with
  | wait o c k => exact closed_mono h hg
  | egwait => exact fun g h0 hl => finOf_mono h (hg g h0 hl)
  | _ => exact hg

/-- the counters carry the history of a run: an op below a counter was let through by its guard, and guards are
    monotone; a `ret` is never below a counter (it ends the main thread instead) -/
theorem executed_guard {P : Prog} {env : Env} {s : St} (hr : Reach P env s) {t j : Nat} {op : Op}
    (hj : j < pc s t) (hop : opAt P t j = some op) : Guard P env s op := by
  induction hr with
  | init => rw [init_pc] at hj; exact absurd hj (Nat.not_lt_zero j)
  | @step s s' hr hs ih =>
    apply guard_mono hs
    unfold pc at hj
    rcases hs.pcs_cases with hp | ⟨t0, op0, htl, hop0, hg, hp⟩ <;> rw [hp] at hj
    · exact ih hj
    · rcases (lt_pc_advance ((shape_reach hr).lenP ▸ htl) t j).mp hj with h | ⟨rfl, rfl⟩
      · exact ih h
      · rw [hop0] at hop; cases hop; exact hg

/-! ### rank certificate -/

structure WF (P : Prog) (rank : Op → Nat) : Prop where
  sorted : ∀ t, (thread P t).Pairwise (fun a b => rank a ≤ rank b)
  waitClose : ∀ t o c k, Op.wait o c k ∈ thread P t →
    ∃ t' o', Op.close o' c ∈ thread P t' ∧ rank (.close o' c) < rank (.wait o c k)
  spawnBefore : ∀ g, 0 < g → g < P.threads.length →
    Op.spawn g ∈ thread P 0 ∧ (∀ op ∈ thread P g, rank (.spawn g) < rank op) ∧ rank (.spawn g) < rank .egwait
  egwaitAfter : ∀ g, 0 < g → ∀ op ∈ thread P g, rank op < rank .egwait
  mainOnly : ∀ t op, op ∈ thread P t → (op = .egwait ∨ (∃ v, op = .ret v) ∨ (∃ g, op = .spawn g)) → t = 0
  /-- every wait is ctx-aware (W5, and W5m of an injector with an error result) -/
  waitsCtx : ∀ t o c k, Op.wait o c k ∈ thread P t → k = true

/-! ### invariants about finished threads and the errgroup -/

structure InvB (P : Prog) (s : St) : Prop where
  okEnd : ∀ t, 0 < t → finOf s t = some .ok → opAt P t (pc s t) = none
  errRec : ∀ t e, 0 < t → finOf s t = some (.err e) → s.egErr ≠ none
  errCanc : s.egErr ≠ none → s.egCanc = true

theorem invB_advance {P : Prog} {s : St} {t : Nat} (h : InvB P s) (hrun : running s t) : InvB P (advance s t) where
  okEnd := by
    intro u hu hf
    have hut : u ≠ t := fun e => by rw [e, finOf_advance, hrun] at hf; cases hf
    rw [pc_advance_other hut]
    exact h.okEnd u hu hf
  errRec := h.errRec
  errCanc := h.errCanc

theorem invB_finish {P : Prog} {s : St} {t : Nat} {f : Fin} (h : InvB P s)
    (hok : f = .ok → 0 < t → opAt P t (pc s t) = none) : InvB P (finish s t f) := by
  have hok' : ∀ u, 0 < u → finOf (finish s t f) u = some .ok → opAt P u (pc (finish s t f) u) = none := by
    intro u hu hf
    rw [pc_finish]
    rcases finOf_finish_cases hf with ⟨rfl, rfl⟩ | hf
    · exact hok rfl hu
    · exact h.okEnd u hu hf
  rcases finish_eg s t f with ⟨hrec, he, hc⟩ | ⟨e, _, _, _, he, hc⟩
  · refine ⟨hok', fun u e hu hf => ?_, by rw [he, hc]; exact h.errCanc⟩
    rw [he]
    rcases finOf_finish_cases hf with ⟨rfl, rfl⟩ | hf
    · exact hrec hu e rfl
    · exact h.errRec u e hu hf
  · exact ⟨hok', fun _ _ _ _ => he ▸ Option.some_ne_none e, fun _ => hc⟩

theorem invB_reach {P : Prog} {env : Env} {s : St} (h : Reach P env s) : InvB P s := by
  induction h with
  | init =>
    have hf : ∀ t, finOf (init P) t = none := fun t => List.getD_replicate_self
    exact ⟨fun t _ h => (by rw [hf] at h; cases h), fun t e _ h => (by rw [hf] at h; cases h), fun h => absurd rfl h⟩
  | @step s s' hr hs ih =>
    cases hs with
    | waitOk _ hrun | enter _ hrun | exitOk _ hrun | close _ hrun | spawn hrun => exact invB_advance ih hrun
    | waitCtx | exitFail => exact invB_finish ih (fun h _ => by cases h)
    | goEnd _ _ _ _ hop => exact invB_finish ih (fun _ _ => hop)
    | egwait hrun =>
      have h1 := invB_advance (t := 0) ih hrun
      exact ⟨h1.okEnd, h1.errRec, fun _ => rfl⟩
    | ret =>
      -- no clause mentions `result`
      have h1 := invB_finish (t := 0) (f := .ok) ih (fun _ h => absurd h (Nat.lt_irrefl 0))
      exact ⟨h1.okEnd, h1.errRec, h1.errCanc⟩
    | cancel => exact ⟨ih.okEnd, ih.errRec, ih.errCanc⟩

/-! ### progress while the injector has not returned (all waits ctx-aware) -/

def Moved (s s' : St) : Prop :=
  (∃ t, pc s' t = pc s t + 1) ∨ (∃ t, finOf s t = none ∧ finOf s' t ≠ none)

def Progress (P : Prog) (env : Env) (s : St) : Prop := ∃ s', Step P env s s' ∧ Moved s s'

/-- the next op of thread `t` (`none`: past the end) is not held back -/
def Ready (P : Prog) (s : St) (t : Nat) : Option Op → Prop
  | some (.wait _ c k) => closed P s c ∨ (k = true ∧ ctxDone s = true)
  | some .egwait => t = 0 ∧ ∀ g, 0 < g → g < P.threads.length → finOf s g ≠ none
  | some (.spawn _) | some (.ret _) => t = 0
  | none => 0 < t
  | _ => True

theorem step_of_ready {P : Prog} {env : Env} {s : St} {t : Nat} (hsh : Shape P s) (htl : t < P.threads.length)
    (hrun : running s t) (hsp : spawned P s t) (hrd : Ready P s t (opAt P t (pc s t))) :
    ∃ s', Step P env s s' ∧ (pc s' t = pc s t + 1 ∨ finOf s' t ≠ none) := by
  have hadv : pc (advance s t) t = pc s t + 1 := pc_advance_self (hsh.lenP ▸ htl)
  have hfin : ∀ f, finOf (finish s t f) t ≠ none := fun f => by
    rw [finOf_finish_self _ _ _ (hsh.lenF ▸ htl)]; exact Option.some_ne_none f
  cases hop : opAt P t (pc s t) with
  | none => rw [hop] at hrd; exact ⟨_, .goEnd hrd htl hrun hsp hop, Or.inr (hfin _)⟩
  | some op =>
    rw [hop] at hrd
    cases op with
    | wait o c k =>
      rcases hrd with hcl | ⟨rfl, hcd⟩
      · exact ⟨_, .waitOk htl hrun hsp hop hcl, Or.inl hadv⟩
      · exact ⟨_, .waitCtx htl hrun hsp hop hcd, Or.inr (hfin _)⟩
    | enter o args => exact ⟨_, .enter htl hrun hsp hop, Or.inl hadv⟩
    | exit o rets f =>
      cases hfail : (f && env.fails o) with
      | false => exact ⟨_, .exitOk htl hrun hsp hop hfail, Or.inl hadv⟩
      | true =>
        obtain ⟨rfl, hfo⟩ := Bool.and_eq_true_iff.mp hfail
        exact ⟨_, .exitFail htl hrun hsp hop hfo, Or.inr (hfin _)⟩
    | close o c => exact ⟨_, .close htl hrun hsp hop, Or.inl hadv⟩
    | spawn g => subst hrd; exact ⟨_, .spawn hrun hop, Or.inl hadv⟩
    | egwait => obtain ⟨rfl, hall⟩ := hrd; exact ⟨_, .egwait hrun hop hall, Or.inl hadv⟩
    | ret v => subst hrd; exact ⟨_, .ret hrun hop, Or.inr (hfin _)⟩

theorem progress_of_ready {P : Prog} {env : Env} {s : St} {t : Nat} (hsh : Shape P s) (htl : t < P.threads.length)
    (hrun : running s t) (hsp : spawned P s t) (hrd : Ready P s t (opAt P t (pc s t))) : Progress P env s :=
  let ⟨s', hs, hm⟩ := step_of_ready hsh htl hrun hsp hrd
  ⟨s', hs, hm.elim (fun h => Or.inl ⟨t, h⟩) (fun h => Or.inr ⟨t, hrun, h⟩)⟩

theorem ready_of_step {P : Prog} {env : Env} {s s' : St} (h : Step P env s s') :
    s' = { s with callerCanc := true } ∨
    ∃ t, t < P.threads.length ∧ running s t ∧ spawned P s t ∧ Ready P s t (opAt P t (pc s t)) := by
  cases h with
  | waitOk htl hrun hsp hop hcl => exact Or.inr ⟨_, htl, hrun, hsp, hop ▸ Or.inl hcl⟩
  | waitCtx htl hrun hsp hop hcd => exact Or.inr ⟨_, htl, hrun, hsp, hop ▸ Or.inr ⟨rfl, hcd⟩⟩
  | enter htl hrun hsp hop | exitOk htl hrun hsp hop | exitFail htl hrun hsp hop | close htl hrun hsp hop =>
    exact Or.inr ⟨_, htl, hrun, hsp, hop ▸ trivial⟩
  | spawn hrun hop | ret hrun hop => exact Or.inr ⟨0, lt_of_opAt hop, hrun, Or.inl rfl, hop ▸ rfl⟩
  | egwait hrun hop hall => exact Or.inr ⟨0, lt_of_opAt hop, hrun, Or.inl rfl, hop ▸ ⟨rfl, hall⟩⟩
  | goEnd ht0 htl hrun hsp hop => exact Or.inr ⟨_, htl, hrun, hsp, hop ▸ ht0⟩
  | cancel => exact Or.inl rfl

theorem stuck_of_not_ready {P : Prog} {env : Env} {s : St}
    (hb : ∀ t, t < P.threads.length → running s t → spawned P s t → ¬ Ready P s t (opAt P t (pc s t))) :
    (∀ s', Step P env s s' → s' = { s with callerCanc := true }) ∧ ¬ Progress P env s := by
  have h1 : ∀ s', Step P env s s' → s' = { s with callerCanc := true } := fun s' h =>
    (ready_of_step h).elim id fun ⟨t, htl, hrun, hsp, hrd⟩ => absurd hrd (hb t htl hrun hsp)
  refine ⟨h1, fun ⟨s', hs, hm⟩ => ?_⟩
  rw [h1 s' hs] at hm
  rcases hm with ⟨t, ht⟩ | ⟨t, h2, h3⟩
  · exact absurd ht (Nat.ne_of_lt (Nat.lt_succ_self (pc s t)))
  · exact h3 h2

/-- a running thread can take its next op, or what holds it back is the next op of a running thread that ranks
    lower (the closer of the awaited channel, an unfinished goroutine, the main thread that has yet to spawn it),
    or a goroutine at its end, which ends -/
theorem held_has_lower {P : Prog} {env : Env} {rank : Op → Nat} (hw : WF P rank) {s : St}
    (hsh : Shape P s) (hB : InvB P s) (hmain : running s 0) {t : Nat} {op : Op}
    (hp : t < P.threads.length ∧ running s t ∧ opAt P t (pc s t) = some op) :
    Progress P env s ∨
      ∃ u b, (u < P.threads.length ∧ running s u ∧ opAt P u (pc s u) = some b) ∧ rank b < rank op := by
  obtain ⟨htl, hrun, hop⟩ := hp
  by_cases hsp : spawned P s t
  · by_cases hrd : Ready P s t (some op)
    · exact Or.inl (progress_of_ready hsh htl hrun hsp (hop ▸ hrd))
    · cases op with
      | wait o c k =>
        obtain rfl : k = true := hw.waitsCtx t o c k (opAt_mem hop)
        obtain ⟨t', o', hclm, hrk⟩ := hw.waitClose t o c true (opAt_mem hop)
        obtain ⟨j', hj'⟩ := mem_opAt hclm
        -- the close has not been executed: the closer's next op ranks at most as high
        obtain ⟨a, (ha : opAt P t' (pc s t') = some a), hle⟩ := List.exists_rank_le_of_idx_le (hw.sorted t') hj'
          (Nat.le_of_not_lt fun h => hrd (Or.inl ⟨t', j', o', hj', h⟩))
        cases hf : finOf s t' with
        | none => exact Or.inr ⟨t', a, ⟨thread_lt_of_mem hclm, hf, ha⟩, Nat.lt_of_le_of_lt hle hrk⟩
        | some f =>
          have ht'0 : 0 < t' := Nat.pos_of_ne_zero fun h => by rw [h, hmain] at hf; cases hf
          cases f with
          | ok => have := hB.okEnd t' ht'0 hf; rw [this] at ha; cases ha
          | err e => exact absurd (Or.inr ⟨rfl, by rw [ctxDone, hB.errCanc (hB.errRec t' e ht'0 hf), Bool.or_true]⟩) hrd
      | egwait =>
        obtain rfl : t = 0 := hw.mainOnly t _ (opAt_mem hop) (Or.inl rfl)
        obtain ⟨g, hg0, hgl, hgf⟩ : ∃ g, 0 < g ∧ g < P.threads.length ∧ finOf s g = none :=
          Classical.byContradiction fun hc => hrd ⟨rfl, fun g h1 h2 h3 => hc ⟨g, h1, h2, h3⟩⟩
        obtain ⟨hsm, hrkg, hrke⟩ := hw.spawnBefore g hg0 hgl
        have hgsp : spawned P s g := by
          obtain ⟨j, hj⟩ := mem_opAt hsm
          exact Or.inr ⟨j, hj, List.idx_lt_of_rank_lt (hw.sorted 0) hj hop hrke⟩
        cases hgo : opAt P g (pc s g) with
        | some b => exact Or.inr ⟨g, b, ⟨hgl, hgf, hgo⟩, hw.egwaitAfter g hg0 b (opAt_mem hgo)⟩
        | none => exact Or.inl (progress_of_ready hsh hgl hgf hgsp (by rw [hgo]; exact hg0))
      | spawn g => exact absurd (hw.mainOnly t _ (opAt_mem hop) (Or.inr (Or.inr ⟨g, rfl⟩))) hrd
      | ret v => exact absurd (hw.mainOnly t _ (opAt_mem hop) (Or.inr (Or.inl ⟨v, rfl⟩))) hrd
      | _ => exact absurd trivial hrd
  · -- not spawned: the main thread still has the spawn ahead of it
    have ht0 : 0 < t := Nat.pos_of_ne_zero fun h => hsp (Or.inl h)
    obtain ⟨hsm, hrkg, _⟩ := hw.spawnBefore t ht0 htl
    obtain ⟨j, hj⟩ := mem_opAt hsm
    obtain ⟨a, ha, hle⟩ := List.exists_rank_le_of_idx_le (hw.sorted 0) hj
      (Nat.le_of_not_lt fun h => hsp (Or.inr ⟨j, hj, h⟩))
    exact Or.inr ⟨0, a, ⟨thread_lt_of_mem hsm, hmain, ha⟩, Nat.lt_of_le_of_lt hle (hrkg op (opAt_mem hop))⟩

/-- `eg.Wait`, `ret` and the spawns stand in the main thread only (the field `mainOnly` of `WF`) -/
def MainOnly (P : Prog) : Prop :=
  ∀ t op, op ∈ thread P t → (op = .egwait ∨ (∃ v, op = .ret v) ∨ (∃ g, op = .spawn g)) → t = 0

/-- there is a main thread, and it ends with `ret` -/
structure MainShape (P : Prog) : Prop where
  nonempty : 0 < P.threads.length
  lastRet : ∃ v, opAt P 0 ((thread P 0).length - 1) = some (.ret v)

/-- **C07 (with an error result) / C06 termination**: as long as the injector has not returned,
    some thread can move — whatever the providers do and whenever the caller cancels. -/
theorem main_never_stuck {P : Prog} {env : Env} {rank : Op → Nat} (hw : WF P rank) (hm : MainShape P)
    {s : St} (hr : Reach P env s) (hmain : running s 0) : Progress P env s := by
  obtain ⟨v, hv⟩ := hm.lastRet
  have hlen : (thread P 0).length - 1 < (thread P 0).length := (List.getElem?_eq_some_iff.mp hv).1
  -- the counter of main is inside the thread: the final `ret` is never below a counter
  have hpc : pc s 0 < (thread P 0).length :=
    Nat.lt_of_not_le fun hc => executed_guard hr (Nat.lt_of_lt_of_le hlen hc) hv
  exact exists_of_rank_descent rank (fun _ _ => held_has_lower hw (shape_reach hr) (invB_reach hr) hmain)
    ⟨0, _, hm.nonempty, hmain, List.getElem?_eq_getElem hpc⟩

/-- once the derived context is done nothing holds a goroutine back; needs only `mainOnly` and the ctx-awareness
    of *its own* waits -/
theorem goroutine_ready {P : Prog}
    (hmain : MainOnly P)
    {s : St} (hcd : ctxDone s = true) {t : Nat} (ht0 : 0 < t)
    (hctx : ∀ o c k, Op.wait o c k ∈ thread P t → k = true) : Ready P s t (opAt P t (pc s t)) := by
  cases hop : opAt P t (pc s t) with
  | none => exact ht0
  | some op =>
    have h0 := fun h => Nat.ne_of_gt ht0 (hmain t op (opAt_mem hop) h)
    cases op with
    | wait o c k => exact Or.inr ⟨hctx o c k (opAt_mem hop), hcd⟩
    | spawn g => exact absurd (Or.inr (Or.inr ⟨g, rfl⟩)) h0
    | egwait => exact absurd (Or.inl rfl) h0
    | ret v => exact absurd (Or.inr (Or.inl ⟨v, rfl⟩)) h0
    | _ => trivial

theorem goroutine_self_moves {P : Prog} {env : Env}
    (hmain : MainOnly P)
    {s : St} (hsh : Shape P s) (hcd : ctxDone s = true) {t : Nat} (ht0 : 0 < t) (htl : t < P.threads.length)
    (hctx : ∀ o c k, Op.wait o c k ∈ thread P t → k = true)
    (hrun : running s t) (hsp : spawned P s t) :
    ∃ s', Step P env s s' ∧ (pc s' t = pc s t + 1 ∨ finOf s' t ≠ none) :=
  step_of_ready hsh htl hrun hsp (goroutine_ready hmain hcd ht0 hctx)

/-- **C08, partial**: once the derived context is done, every goroutine that is still running and
    spawned lets the system move. (Not covered: the known finding, a main-thread provider error returns without
    cancelling.) -/
theorem goroutine_moves_when_ctx_done {P : Prog} {env : Env} {rank : Op → Nat} (hw : WF P rank) {s : St}
    (hsh : Shape P s) (hcd : ctxDone s = true) {t : Nat} (ht0 : 0 < t) (htl : t < P.threads.length)
    (hrun : running s t) (hsp : spawned P s t) : Progress P env s :=
  progress_of_ready hsh htl hrun hsp (goroutine_ready hw.mainOnly hcd ht0 (hw.waitsCtx t))

/-! ### what the injector returns -/

def egwaitDone (P : Prog) (s : St) : Prop := ∃ j, j < pc s 0 ∧ opAt P 0 j = some .egwait

theorem joined {P : Prog} {env : Env} {s : St} (hr : Reach P env s) (hd : egwaitDone P s) :
    ∀ g, 0 < g → g < P.threads.length → finOf s g ≠ none :=
  let ⟨_, hj, hop⟩ := hd
  executed_guard hr hj hop

theorem egwaitDone_mono {P : Prog} {env : Env} {s s' : St} (h : Step P env s s') (hd : egwaitDone P s) :
    egwaitDone P s' := by
  obtain ⟨j, hj, hop⟩ := hd
  exact ⟨j, Nat.lt_of_lt_of_le hj (step_pc_mono h 0), hop⟩

/-- where an error value comes from: a provider that failed, or the context (`c`: it is done) -/
def Origin (env : Env) (c : Bool) : Err → Prop
  | .prov o => env.fails o = true
  | .ctx => c = true

theorem Origin.mono {env : Env} {c c' : Bool} {e : Err} (h : Origin env c e) (hc : c = true → c' = true) :
    Origin env c' e := by
  cases e with
  | prov o => exact h
  | ctx => exact hc h

theorem Step.callerCanc_mono {P : Prog} {env : Env} {s s' : St} (h : Step P env s s') (hc : s.callerCanc = true) :
    s'.callerCanc = true := by
  cases h with
  | waitCtx | exitFail | goEnd => rw [finish_callerCanc]; exact hc
  | cancel => rfl
  | _ => exact hc

theorem Step.eg_cases {P : Prog} {env : Env} {s s' : St} (h : Step P env s s') (hsh : Shape P s) :
    (s'.egErr = s.egErr ∧ (s'.egCanc = s.egCanc ∨ egwaitDone P s')) ∨
    ∃ t e, 0 < t ∧ t < P.threads.length ∧ running s t ∧ s.egErr = none ∧ s'.egErr = some e ∧
      Origin env (ctxDone s) e := by
  cases h with
  | waitCtx htl hrun _ _ hcd =>
    exact (finish_eg s _ _).imp (fun h => ⟨h.2.1, Or.inl h.2.2⟩) fun ⟨e, ht0, hf, hn, he, _⟩ =>
      ⟨_, e, ht0, htl, hrun, hn, he, by cases hf; exact hcd⟩
  | exitFail htl hrun _ _ hfo =>
    exact (finish_eg s _ _).imp (fun h => ⟨h.2.1, Or.inl h.2.2⟩) fun ⟨e, ht0, hf, hn, he, _⟩ =>
      ⟨_, e, ht0, htl, hrun, hn, he, by cases hf; exact hfo⟩
  | goEnd => exact (finish_eg s _ _).imp (fun h => ⟨h.2.1, Or.inl h.2.2⟩) fun ⟨_, _, hf, _⟩ => nomatch hf
  | egwait _ hop =>
    refine Or.inl ⟨rfl, Or.inr ⟨pc s 0, ?_, hop⟩⟩
    show pc s 0 < pc (advance s 0) 0
    rw [pc_advance_self (hsh.lenP ▸ lt_of_opAt hop)]; exact Nat.lt_succ_self _
  | _ => exact Or.inl ⟨rfl, Or.inl rfl⟩

theorem canc_why {P : Prog} {env : Env} {s : St} (hr : Reach P env s) (hc : s.egCanc = true) :
    s.egErr ≠ none ∨ egwaitDone P s := by
  induction hr with
  | init => cases hc
  | @step s s' hr hs ih =>
    rcases hs.eg_cases (shape_reach hr) with ⟨he, hcs | hd⟩ | ⟨_, e, _, _, _, _, he, _⟩
    · rw [he]; exact (ih (hcs ▸ hc)).imp id (egwaitDone_mono hs)
    · exact Or.inr hd
    · exact Or.inl (he ▸ Option.some_ne_none e)

theorem eg_origin {P : Prog} {env : Env} {s : St} (hr : Reach P env s) {e : Err} (he : s.egErr = some e) :
    Origin env s.callerCanc e := by
  induction hr with
  | init => cases he
  | @step s s' hr hs ih =>
    rcases hs.eg_cases (shape_reach hr) with ⟨hsame, _⟩ | ⟨t, e', ht0, htl, hrun, hn, he', hwhy⟩
    · exact (ih (hsame ▸ he)).mono hs.callerCanc_mono
    · obtain rfl : e' = e := Option.some.inj (he'.symm.trans he)
      -- a context that is done although no error was recorded and eg.Wait was not passed: the caller cancelled
      refine hwhy.mono fun hcd => hs.callerCanc_mono ?_
      rcases Bool.or_eq_true_iff.mp hcd with hcc | hcanc
      · exact hcc
      · rcases canc_why hr hcanc with h1 | h1
        · exact absurd hn h1
        · exact absurd hrun (joined hr h1 t ht0 htl)

/-- `ret` comes after `eg.Wait` whenever goroutines exist -/
def RetShape (P : Prog) : Prop :=
  1 < P.threads.length → ∀ j v, opAt P 0 j = some (.ret v) → ∃ i, i < j ∧ opAt P 0 i = some .egwait

theorem Step.result_cases {P : Prog} {env : Env} {s s' : St} (h : Step P env s s') :
    s'.result = s.result ∨
    (∃ e, 0 < P.threads.length ∧ s'.result = some (some e) ∧ s'.fin = s.fin.set 0 (some (.err e)) ∧
      ∀ o, e = .prov o → env.fails o = true) ∨
    (∃ v, opAt P 0 (pc s 0) = some (.ret v) ∧ s'.result = some (if P.retErr then s.egErr else none) ∧
      s'.fin = s.fin.set 0 (some .ok) ∧ s'.egErr = s.egErr) := by
  cases h with
  | @waitCtx t _ _ htl =>
    cases t with
    | zero => exact Or.inr (Or.inl ⟨.ctx, htl, rfl, rfl, nofun⟩)
    | succ k => exact Or.inl (finish_result _ _ (Nat.succ_pos k))
  | @exitFail t _ _ htl _ _ _ hfo =>
    cases t with
    | zero => exact Or.inr (Or.inl ⟨_, htl, rfl, rfl, fun o he => by cases he; exact hfo⟩)
    | succ k => exact Or.inl (finish_result _ _ (Nat.succ_pos k))
  | goEnd ht0 => exact Or.inl (finish_result _ _ ht0)
  | ret _ hop => exact Or.inr (Or.inr ⟨_, hop, rfl, rfl, rfl⟩)
  | _ => exact Or.inl rfl

/-- stays true once a value result is there: no thread is running any more -/
theorem res_val {P : Prog} {env : Env} (hrs : RetShape P) {s : St} (hr : Reach P env s)
    (hres : s.result = some none) :
    finOf s 0 = some .ok ∧ (∀ g, 0 < g → g < P.threads.length → finOf s g ≠ none) ∧
      (P.retErr = true → s.egErr = none) := by
  induction hr with
  | init => cases hres
  | @step s s' hr hs ih =>
    have hsh := shape_reach hr
    rcases hs.result_cases with hsame | ⟨e, _, he, _⟩ | ⟨v, hop, hv, hfin, heg⟩
    · obtain ⟨h0, hall, hne⟩ := ih (hsame ▸ hres)
      refine ⟨finOf_stable hs h0, fun g hg hgl => finOf_mono hs (hall g hg hgl), fun hre => ?_⟩
      rcases hs.eg_cases hsh with ⟨he, _⟩ | ⟨t, _, ht0, htl, hrun, _⟩
      · rw [he]; exact hne hre
      · exact absurd hrun (hall t ht0 htl)
    · rw [he] at hres; cases hres
    · rw [hv] at hres
      refine ⟨finOf_set_self hfin (hsh.lenF ▸ lt_of_opAt hop), fun g hg hgl => ?_, fun hre => ?_⟩
      · obtain ⟨i, hi, hopi⟩ := hrs (Nat.lt_of_le_of_lt hg hgl) (pc s 0) v hop
        exact finOf_mono hs (joined hr ⟨i, hi, hopi⟩ g hg hgl)
      · rw [heg]; rw [hre] at hres; exact Option.some.inj hres

theorem res_err {P : Prog} {env : Env} {s : St} (hr : Reach P env s) {e : Err} (hres : s.result = some (some e)) :
    Origin env s.callerCanc e ∨ (e = .ctx ∧ finOf s 0 = some (.err .ctx)) := by
  induction hr with
  | init => cases hres
  | @step s s' hr hs ih =>
    rcases hs.result_cases with hsame | ⟨e', h0, he, hfin, hwhy⟩ | ⟨v, _, hv, _, _⟩
    · exact (ih (hsame ▸ hres)).imp (·.mono hs.callerCanc_mono) fun ⟨h1, h2⟩ => ⟨h1, finOf_stable hs h2⟩
    · obtain rfl : e' = e := Option.some.inj (Option.some.inj (he.symm.trans hres))
      cases e' with
      | prov o => exact Or.inl (hwhy o rfl)
      | ctx => exact Or.inr ⟨rfl, finOf_set_self hfin ((shape_reach hr).lenF ▸ h0)⟩
    · -- the result of `ret` is the errgroup's error
      rw [hv] at hres
      have heg : s.egErr = some e := by
        cases hp : P.retErr with
        | true => rw [hp] at hres; exact Option.some.inj hres
        | false => rw [hp] at hres; cases hres
      exact Or.inl ((eg_origin hr heg).mono hs.callerCanc_mono)

/-- **C06 clause 1**: if the injector returns a value although its signature has an error result,
    then no thread ended with an error — i.e. a provider failure always surfaces as a non-nil error. -/
theorem value_means_no_error {P : Prog} {env : Env} (hrs : RetShape P) (hre : P.retErr = true) {s : St}
    (h : Reach P env s) (hres : s.result = some none) : ∀ t e, t < P.threads.length → finOf s t ≠ some (.err e) := by
  obtain ⟨h0, _, hnone⟩ := res_val hrs h hres
  intro t e htl hf
  cases t with
  | zero => rw [h0] at hf; cases hf
  | succ k => exact (invB_reach h).errRec (k + 1) e (Nat.succ_pos k) hf (hnone hre)

/-- **C07 (error-returning injectors), result clause**: if a value is returned, every goroutine ran
    all its ops (so everything the value depends on was actually constructed). -/
theorem value_means_complete {P : Prog} {env : Env} (hrs : RetShape P) (hre : P.retErr = true) {s : St}
    (h : Reach P env s) (hres : s.result = some none) :
    ∀ t, 0 < t → t < P.threads.length → ∀ j op, opAt P t j = some op → j < pc s t := by
  obtain ⟨_, hall, _⟩ := res_val hrs h hres
  intro t ht htl j op hop
  cases hf : finOf s t with
  | none => exact absurd hf (hall t ht htl)
  | some f =>
    cases f with
    | err e => exact absurd hf (value_means_no_error hrs hre h hres t e htl)
    | ok =>
      have hend : (thread P t)[pc s t]? = none := (invB_reach h).okEnd t ht hf
      exact Nat.lt_of_lt_of_le (List.lt_length_of_getElem? hop) (List.getElem?_eq_none_iff.mp hend)

/-- **C06 clause 2, partial**: an error result is the error of a provider that failed, unless the
    caller cancelled or the main thread itself left through a ctx-aware wait (the known-finding site K6). -/
theorem error_is_provider_error {P : Prog} {env : Env} (hrs : RetShape P) {s : St}
    (h : Reach P env s) {e : Err} (hres : s.result = some (some e)) (hq : s.callerCanc = false)
    (hk6 : finOf s 0 ≠ some (.err .ctx)) : ∃ o, e = .prov o ∧ env.fails o = true := by
  rcases res_err h hres with ho | ⟨_, h1⟩
  · cases e with
    | prov o => exact ⟨o, rfl, ho⟩
    | ctx => rw [show s.callerCanc = true from ho] at hq; cases hq
  · exact absurd h1 hk6

/-! ### C06 clause 3 / C01 under failures: a provider is entered only after all its producers returned -/

structure WFData (P : Prog) (rank : Op → Nat) (isParam : Nat → Prop) : Prop where
  reads : ∀ t o args v, Op.enter o args ∈ thread P t → v ∈ args → ¬ isParam v →
    ∃ t' o' rets f, Op.exit o' rets f ∈ thread P t' ∧ v ∈ rets ∧
      ((t' = t ∧ rank (.exit o' rets f) < rank (.enter o args)) ∨
       (∃ ow k, Op.wait ow v k ∈ thread P t ∧ rank (.wait ow v k) < rank (.enter o args)) ∧
        (∃ oc, Op.close oc v ∈ thread P t' ∧ rank (.exit o' rets f) < rank (.close oc v)))
  closeUnique : ∀ c t o t' o', Op.close o c ∈ thread P t → Op.close o' c ∈ thread P t' → t = t' ∧ o = o'

/-- `enter_after_writes` from the rank-sortedness of the threads alone, not the whole `WF` (in particular not that
    the waits are ctx-aware) -/
theorem enter_after_writes_sorted {P : Prog} {env : Env} {rank : Op → Nat} {isParam : Nat → Prop}
    (hs : ∀ t, (thread P t).Pairwise (fun a b => rank a ≤ rank b)) (hd : WFData P rank isParam)
    {s : St} (hr : Reach P env s) {t o : Nat} {args : List Nat} {v : Nat}
    (hop : opAt P t (pc s t) = some (.enter o args)) (hv : v ∈ args) (hnp : ¬ isParam v) :
    written P s v := by
  obtain ⟨t', o', rets, f, hex, hvr, hcase⟩ := hd.reads t o args v (opAt_mem hop) hv hnp
  obtain ⟨i, hi⟩ := mem_opAt hex
  rcases hcase with ⟨rfl, hrk⟩ | ⟨⟨ow, k, hwt, hrw⟩, ⟨oc, hcl, hrc⟩⟩
  · exact ⟨t', i, o', rets, f, hi, hvr, List.idx_lt_of_rank_lt (hs t') hi hop hrk⟩
  · -- the wait for `v` was executed, so its channel is closed; the close comes after the exit
    obtain ⟨jw, hjw⟩ := mem_opAt hwt
    obtain ⟨t'', kk, oc', hk, hklt⟩ : closed P s v :=
      executed_guard hr (List.idx_lt_of_rank_lt (hs t) hjw hop hrw) hjw
    obtain ⟨rfl, rfl⟩ := hd.closeUnique v t' oc t'' oc' hcl (opAt_mem hk)
    exact ⟨t', i, o', rets, f, hi, hvr, Nat.lt_trans (List.idx_lt_of_rank_lt (hs t') hi hk hrc) hklt⟩

theorem enter_after_writes {P : Prog} {env : Env} {rank : Op → Nat} {isParam : Nat → Prop}
    (hw : WF P rank) (hd : WFData P rank isParam) {s : St} (hr : Reach P env s)
    {t o : Nat} {args : List Nat} {v : Nat}
    (hop : opAt P t (pc s t) = some (.enter o args)) (hv : v ∈ args) (hnp : ¬ isParam v) :
    written P s v :=
  enter_after_writes_sorted hw.sorted hd hr hop hv hnp

/-- `v` was written by a provider call that **returned successfully** -/
def writtenOk (P : Prog) (env : Env) (s : St) (v : Nat) : Prop :=
  ∃ t j o rets f, opAt P t j = some (.exit o rets f) ∧ v ∈ rets ∧ j < pc s t ∧ (f && env.fails o) = false

/-- an executed `exit` did not fail: a failing `exit` ends its thread without advancing the counter -/
theorem writtenOk_of_written {P : Prog} {env : Env} {s : St} (hr : Reach P env s) {v : Nat}
    (h : written P s v) : writtenOk P env s v :=
  let ⟨t, j, o, rets, f, h1, h2, h3⟩ := h
  ⟨t, j, o, rets, f, h1, h2, h3, executed_guard hr h3 h1⟩

end T1F
