import KV.PlanStages
import KV.Value
/-! C10: the planned signature is the one the declaration determines.  Specification (`Needed`, `Unsupplied`) written
    directly from the property statement, and the proof that the signature planned by `KV.plan` (`argTypes`,
    `sigArgs`, `PlanOut.b.isErr`) is exactly the one it describes. -/
namespace KV

/-- provider index `q` is needed for `ret`: it supplies `ret`, or supplies a type required by a needed provider -/
inductive Needed (provs : List PSpec) (sup : SupMap) (ret : Nat) : Nat → Prop
  | root {q gi} : sup.lookup ret = some (q, gi) → Needed provs sup ret q
  | step {q q' gi t} : Needed provs sup ret q → t ∈ (provs.getD q default).requires →
      sup.lookup t = some (q', gi) → Needed provs sup ret q'

/-- `t` is an unsupplied type required by a needed provider, or the unsupplied requested type itself -/
def Unsupplied (provs : List PSpec) (sup : SupMap) (ret : Nat) (t : Nat) : Prop :=
  sup.lookup t = none ∧ (t = ret ∨ ∃ q, Needed provs sup ret q ∧ t ∈ (provs.getD q default).requires)

theorem needed_iff_reach {provs : List PSpec} {sup : SupMap} {ret rp ri : Nat} (hl : sup.lookup ret = some (rp, ri))
    (q : Nat) : Needed provs sup ret q ↔ Reach (Needs provs sup) rp q := by
  constructor
  · intro h
    induction h with
    | root hl' => rw [hl] at hl'; cases hl'; exact Reach.refl _
    | step _ ht hl' ih => exact Reach.tail ih ⟨_, ht, _, hl'⟩
  · intro h
    induction h with
    | refl => exact .root hl
    | tail _ hn ih =>
      obtain ⟨t, ht, gi, hl'⟩ := hn
      exact .step ih ht hl'

theorem needed_congr {provs provs' : List PSpec} {sup : SupMap} {ret : Nat}
    (hreq : ∀ q, Needed provs sup ret q → (provs'.getD q default).requires = (provs.getD q default).requires)
    (q : Nat) : Needed provs' sup ret q ↔ Needed provs sup ret q := by
  constructor
  · intro h
    induction h with
    | root hl => exact .root hl
    | step _ ht hl ih => exact .step ih (by rw [← hreq _ ih]; exact ht) hl
  · intro h
    induction h with
    | root hl => exact .root hl
    | step hq ht hl ih => exact .step ih (by rw [hreq _ hq]; exact ht) hl

theorem exists_needed_congr {provs provs' : List PSpec} {sup : SupMap} {ret : Nat}
    (hreq : ∀ q, Needed provs sup ret q → (provs'.getD q default).requires = (provs.getD q default).requires)
    {P' P : Nat → Prop} (hP : ∀ q, Needed provs sup ret q → (P' q ↔ P q)) :
    (∃ q, Needed provs' sup ret q ∧ P' q) ↔ ∃ q, Needed provs sup ret q ∧ P q :=
  exists_congr fun q =>
    ⟨fun ⟨h1, h2⟩ => have hq := (needed_congr hreq q).mp h1; ⟨hq, (hP q hq).mp h2⟩,
     fun ⟨h1, h2⟩ => ⟨(needed_congr hreq q).mpr h1, (hP q h1).mpr h2⟩⟩

theorem unsupplied_congr {provs provs' : List PSpec} {sup : SupMap} {ret : Nat}
    (hreq : ∀ q, Needed provs sup ret q → (provs'.getD q default).requires = (provs.getD q default).requires)
    (t : Nat) : Unsupplied provs' sup ret t ↔ Unsupplied provs sup ret t :=
  and_congr_right fun _ => or_congr_right (exists_needed_congr hreq fun q hq => by rw [hreq q hq])

/-- the nodes of the graph are the needed providers and the unsupplied keys they require, one node each -/
structure GSpec (provs : List PSpec) (sup : SupMap) (ret : Nat) (g : Graph) : Prop where
  provsEq : g.provs = provs
  provNodes : ∀ q, (∃ n, n < g.nodes.length ∧ (g.nodes.getD n default).isArg = false ∧
      (g.nodes.getD n default).prov = q) ↔ Needed provs sup ret q
  argNodes : ∀ t, (∃ n, n < g.nodes.length ∧ (g.nodes.getD n default).isArg = true ∧
      (g.nodes.getD n default).ty = t) ↔ Unsupplied provs sup ret t
  argInj : ∀ n n', n < g.nodes.length → n' < g.nodes.length → (g.nodes.getD n default).isArg = true →
      (g.nodes.getD n' default).isArg = true → (g.nodes.getD n default).ty = (g.nodes.getD n' default).ty → n = n'

theorem BfsFacts.gspec {provs : List PSpec} {sup : SupMap} {ret rp ri : Nat} {st : BfsSt} {g : Graph}
    (hf : BfsFacts provs sup rp st) (hl : sup.lookup ret = some (rp, ri)) (hq : st.queue = [])
    (hn : g.nodes = st.nodes) (hp : g.provs = provs) : GSpec provs sup ret g := by
  have hneeded : ∀ q, (∃ n, IsNodeOf st n q) ↔ Needed provs sup ret q :=
    fun q => (bfs_nodes_reach hf hq q).trans (needed_iff_reach hl q).symm
  obtain ⟨hc1, hc2, hc3⟩ := args_characterisation hf.inv hf.prov hf.ainv hq (by rw [hf.root.2])
  refine { provsEq := hp, provNodes := ?_, argNodes := ?_, argInj := ?_ } <;> rw [hn]
  · exact hneeded
  · refine fun t => ⟨?_, ?_⟩
    · rintro ⟨n, hn, hia, rfl⟩
      obtain ⟨hnone, m, i, hm, hma, hreq⟩ := hc1 n hn hia
      exact ⟨hnone, Or.inr ⟨_, (hneeded _).mp ⟨m, hm, hma, rfl⟩, (mem_requires_of_reqOf hreq).2⟩⟩
    · rintro ⟨hnone, rfl | ⟨q, hq, hreq⟩⟩
      · rw [hl] at hnone; cases hnone
      · obtain ⟨m, hm, hma, rfl⟩ := (hneeded q).mpr hq
        exact hc2 m hm hma t (by rw [reqOf_spec provs st m hma]; exact hreq) hnone
  · exact hc3

/-- `l` lists the nodes: the Kahn order for `isErr` (set in the first pass of `Build`), `List.range` for `isAsync` -/
theorem GSpec.any_provider {provs : List PSpec} {sup : SupMap} {ret : Nat} {g : Graph} (hs : GSpec provs sup ret g)
    (f : PSpec → Bool) {l : List Nat} (hl : ∀ n, n ∈ l ↔ n < g.nodes.length) :
    l.any (fun n => !(g.nodes.getD n default).isArg && f (g.provs.getD (g.nodes.getD n default).prov default)) = true ↔
      ∃ q, Needed provs sup ret q ∧ f (provs.getD q default) = true := by
  simp only [List.any_eq_true, Bool.and_eq_true, Bool.not_eq_true', hl, hs.provsEq]
  constructor
  · rintro ⟨n, hn, hna, hf⟩; exact ⟨_, (hs.provNodes _).mp ⟨n, hn, hna, rfl⟩, hf⟩
  · rintro ⟨q, hq, hf⟩
    obtain ⟨n, hn, hna, rfl⟩ := (hs.provNodes q).mpr hq
    exact ⟨n, hn, hna, hf⟩

/-- the requested type of an accepted declaration always has a supplier (the `t = ret` alternative of `Unsupplied`
    never applies to a declaration the model accepts) -/
theorem plan_ret_supplied {provs0 provs : List PSpec} {sup : SupMap} {ret : Nat} {p : PlanOut}
    (h : plan provs0 ret = .ok p) (hs : supplierMap provs0 = .ok (provs, sup)) :
    ∃ rp ri, sup.lookup ret = some (rp, ri) ∧ Needed provs sup ret rp :=
  let ⟨rp, ri, _, hl, _⟩ := plan_bfs h hs
  ⟨rp, ri, hl, .root hl⟩

/-- a requested type that nobody supplies is refused (the recorded finding `identity-injector-refused`) -/
theorem plan_err_of_unsupplied {provs0 provs : List PSpec} {sup : SupMap} {ret : Nat}
    (hs : supplierMap provs0 = .ok (provs, sup)) (hret : sup.lookup ret = none) : ¬ ∃ p, plan provs0 ret = .ok p := by
  rintro ⟨p, hp⟩
  obtain ⟨rp, ri, hl, _⟩ := plan_ret_supplied hp hs
  rw [hret] at hl; cases hl

theorem plan_spec {provs0 provs : List PSpec} {sup : SupMap} {ret : Nat} {p : PlanOut}
    (h : plan provs0 ret = .ok p) (hs : supplierMap provs0 = .ok (provs, sup)) : GSpec provs sup ret p.g :=
  let ⟨_, _, _, hl, hf, hq, hn, _, hp, _⟩ := plan_bfs h hs
  hf.gspec hl hq hn hp

theorem plan_argTypes {provs0 : List PSpec} {ret : Nat} {p : PlanOut} (h : plan provs0 ret = .ok p) :
    argTypes p = ((topoOrder p.g).filter (isArgNode p.g)).map fun n => (p.g.nodes.getD n default).ty := by
  have hp := plan_all h
  rw [← bpass1_args p.g (topoOrder p.g) (maxAntichain p.g), List.map_map, argTypes, hp.args]
  exact List.map_congr_left fun v _ => by rw [Function.comp_apply, (hp.params_fields v).2.1]; rfl

theorem params_exact {provs0 provs : List PSpec} {sup : SupMap} {ret : Nat} {p : PlanOut}
    (h : plan provs0 ret = .ok p) (hs : supplierMap provs0 = .ok (provs, sup)) :
    (∀ t, t ∈ argTypes p ↔ Unsupplied provs sup ret t) ∧ (argTypes p).Nodup := by
  have hp := plan_all h
  have hspec := plan_spec h hs
  have hmem : ∀ n, n ∈ (topoOrder p.g).filter (isArgNode p.g) ↔
      n < p.g.nodes.length ∧ (p.g.nodes.getD n default).isArg = true := fun n =>
    List.mem_filter.trans (and_congr_left fun _ => hp.mem_order)
  rw [plan_argTypes h]
  refine ⟨fun t => ?_, ?_⟩
  · rw [← hspec.argNodes t, List.mem_map]
    exact exists_congr fun n => by rw [hmem, and_assoc]
  · rw [List.Nodup, List.pairwise_map]
    refine List.Pairwise.imp_of_mem ?_ (hp.order_nodup.sublist List.filter_sublist)
    intro a b ha hb hab hty
    exact hab (hspec.argInj a b ((hmem a).mp ha).1 ((hmem b).mp hb).1 ((hmem a).mp ha).2 ((hmem b).mp hb).2 hty)

theorem isAsyncNode_lt (g : Graph) {n : Nat} (hn : n < g.nodes.length) :
    isAsyncNode g n = (!(g.nodes.getD n default).isArg && (g.provs.getD (g.nodes.getD n default).prov default).isAsync) := by
  unfold isAsyncNode
  rw [List.getElem?_eq_getElem hn, List.getD_eq_getElem _ hn]

theorem hasAsync_iff {provs0 provs : List PSpec} {sup : SupMap} {ret : Nat} {p : PlanOut}
    (h : plan provs0 ret = .ok p) (hs : supplierMap provs0 = .ok (provs, sup)) :
    hasAsyncNodes p.g = true ↔ ∃ q, Needed provs sup ret q ∧ (provs.getD q default).isAsync = true := by
  rw [← (plan_spec h hs).any_provider PSpec.isAsync fun n => List.mem_range, hasAsyncNodes, List.any_eq_true,
    List.any_eq_true]
  exact exists_congr fun n => and_congr_right fun hn => by rw [isAsyncNode_lt _ (List.mem_range.mp hn)]

theorem error_result {provs0 provs : List PSpec} {sup : SupMap} {ret : Nat} {p : PlanOut}
    (h : plan provs0 ret = .ok p) (hs : supplierMap provs0 = .ok (provs, sup)) :
    p.b.isErr = true ↔ ∃ q, Needed provs sup ret q ∧ (provs.getD q default).isErr = true := by
  have hp := plan_all h
  rw [← (plan_spec h hs).any_provider PSpec.isErr fun _ => hp.mem_order, hp.out,
    ← bpass1_isErr p.g (topoOrder p.g) (maxAntichain p.g)]
  rfl

theorem sigArgs_async {p : PlanOut} (ha : hasAsyncNodes p.g = true) :
    sigArgs p = ctxTy :: (argTypes p).erase ctxTy := by
  rw [sigArgs, if_pos ha]

theorem sigArgs_sync {p : PlanOut} (ha : hasAsyncNodes p.g = false) : sigArgs p = argTypes p := by
  rw [sigArgs, ha]; rfl

theorem mem_sigArgs {p : PlanOut} {t : Nat} :
    t ∈ sigArgs p ↔ (hasAsyncNodes p.g = true ∧ t = ctxTy) ∨ t ∈ argTypes p := by
  cases ha : hasAsyncNodes p.g
  · rw [sigArgs_sync ha]
    exact ⟨Or.inr, fun h => h.elim (fun hc => nomatch hc.1) id⟩
  · rw [sigArgs_async ha, List.mem_cons]
    by_cases ht : t = ctxTy
    · exact ⟨fun _ => Or.inl ⟨rfl, ht⟩, fun _ => Or.inl ht⟩
    · rw [List.mem_erase_of_ne ht]
      exact or_congr_left ⟨fun hc => ⟨rfl, hc⟩, fun hc => hc.2⟩

theorem mem_sigArgs_iff {provs0 provs : List PSpec} {sup : SupMap} {ret : Nat} {p : PlanOut}
    (h : plan provs0 ret = .ok p) (hs : supplierMap provs0 = .ok (provs, sup)) (t : Nat) :
    t ∈ sigArgs p ↔
      ((∃ q, Needed provs sup ret q ∧ (provs.getD q default).isAsync = true) ∧ t = ctxTy) ∨ Unsupplied provs sup ret t := by
  rw [mem_sigArgs, (params_exact h hs).1, hasAsync_iff h hs]

theorem ctx_param {provs0 provs : List PSpec} {sup : SupMap} {ret : Nat} {p : PlanOut}
    (h : plan provs0 ret = .ok p) (hs : supplierMap provs0 = .ok (provs, sup)) :
    (ctxTy ∈ sigArgs p ↔
      (∃ q, Needed provs sup ret q ∧ (provs.getD q default).isAsync = true) ∨ Unsupplied provs sup ret ctxTy) ∧
    ((∃ q, Needed provs sup ret q ∧ (provs.getD q default).isAsync = true) → (sigArgs p).head? = some ctxTy) ∧
    (sigArgs p).Nodup ∧
    (∀ t, t ≠ ctxTy → (t ∈ sigArgs p ↔ Unsupplied provs sup ret t)) := by
  have hnd := (params_exact h hs).2
  refine ⟨?_, fun hq => ?_, ?_, fun t ht => ?_⟩
  · rw [mem_sigArgs_iff h hs, and_iff_left rfl]
  · rw [sigArgs_async ((hasAsync_iff h hs).mpr hq)]; rfl
  · cases ha : hasAsyncNodes p.g
    · rw [sigArgs_sync ha]; exact hnd
    · rw [sigArgs_async ha, List.nodup_cons]
      exact ⟨fun hc => (hnd.mem_erase_iff.mp hc).1 rfl, hnd.erase _⟩
  · rw [mem_sigArgs_iff h hs]
    exact or_iff_right fun hc => ht hc.2

/-- **C10, in one statement.** -/
theorem C10_signature {provs0 : List PSpec} {ret : Nat} {p : PlanOut} (h : plan provs0 ret = .ok p) :
    ∃ provs sup, supplierMap provs0 = .ok (provs, sup) ∧
      (∀ t, t ∈ argTypes p ↔ Unsupplied provs sup ret t) ∧ (argTypes p).Nodup ∧
      (∀ t, t ≠ ctxTy → (t ∈ sigArgs p ↔ Unsupplied provs sup ret t)) ∧
      (ctxTy ∈ sigArgs p ↔
        (∃ q, Needed provs sup ret q ∧ (provs.getD q default).isAsync = true) ∨ Unsupplied provs sup ret ctxTy) ∧
      ((∃ q, Needed provs sup ret q ∧ (provs.getD q default).isAsync = true) → (sigArgs p).head? = some ctxTy) ∧
      (sigArgs p).Nodup ∧
      (p.b.isErr = true ↔ ∃ q, Needed provs sup ret q ∧ (provs.getD q default).isErr = true) := by
  obtain ⟨provs, sup, hs⟩ := plan_supplierMap h
  obtain ⟨h1, h2⟩ := params_exact h hs
  obtain ⟨h3, h4, h5, h6⟩ := ctx_param h hs
  exact ⟨provs, sup, hs, h1, h2, h6, h3, h4, h5, error_result h hs⟩

/-- with `plan_ret_supplied`: the parameters are the unsupplied requirements of needed providers -/
theorem params_exact_needed {provs0 provs : List PSpec} {sup : SupMap} {ret : Nat} {p : PlanOut}
    (h : plan provs0 ret = .ok p) (hs : supplierMap provs0 = .ok (provs, sup)) (t : Nat) :
    t ∈ argTypes p ↔ sup.lookup t = none ∧ ∃ q, Needed provs sup ret q ∧ t ∈ (provs.getD q default).requires := by
  obtain ⟨rp, ri, hl, _⟩ := plan_ret_supplied h hs
  rw [(params_exact h hs).1 t]
  exact and_congr_right fun h1 => or_iff_right fun h2 => by rw [h2, hl] at h1; cases h1

/-- without a needed Async provider there is no context parameter unless it is itself an unsupplied type, and
    without a needed fallible provider there is no error result — whatever the unneeded providers are -/
theorem unneeded_no_ctx_no_err {provs0 provs : List PSpec} {sup : SupMap} {ret : Nat} {p : PlanOut}
    (h : plan provs0 ret = .ok p) (hs : supplierMap provs0 = .ok (provs, sup)) :
    ((∀ q, Needed provs sup ret q → (provs.getD q default).isAsync = false) → sigArgs p = argTypes p) ∧
    ((∀ q, Needed provs sup ret q → (provs.getD q default).isErr = false) → p.b.isErr = false) := by
  constructor
  · intro hall
    refine sigArgs_sync (Bool.eq_false_iff.mpr fun hc => ?_)
    obtain ⟨q, hq, ha⟩ := (hasAsync_iff h hs).mp hc
    rw [hall q hq] at ha; cases ha
  · intro hall
    refine Bool.eq_false_iff.mpr fun hc => ?_
    obtain ⟨q, hq, ha⟩ := (error_result h hs).mp hc
    rw [hall q hq] at ha; cases ha

theorem signature_of_needed {provs0 provs0' provs provs' : List PSpec} {sup : SupMap} {ret : Nat} {p p' : PlanOut}
    (h : plan provs0 ret = .ok p) (hs : supplierMap provs0 = .ok (provs, sup))
    (h' : plan provs0' ret = .ok p') (hs' : supplierMap provs0' = .ok (provs', sup))
    (hagree : ∀ q, Needed provs sup ret q →
      (provs'.getD q default).requires = (provs.getD q default).requires ∧
      (provs'.getD q default).isAsync = (provs.getD q default).isAsync ∧
      (provs'.getD q default).isErr = (provs.getD q default).isErr) :
    p'.b.isErr = p.b.isErr ∧ hasAsyncNodes p'.g = hasAsyncNodes p.g ∧ (sigArgs p').Perm (sigArgs p) := by
  have hreq : ∀ q, Needed provs sup ret q → (provs'.getD q default).requires = (provs.getD q default).requires :=
    fun q hq => (hagree q hq).1
  have hasyncEx : (∃ q, Needed provs' sup ret q ∧ (provs'.getD q default).isAsync = true) ↔
      (∃ q, Needed provs sup ret q ∧ (provs.getD q default).isAsync = true) :=
    exists_needed_congr hreq fun q hq => by rw [(hagree q hq).2.1]
  refine ⟨?_, ?_, ?_⟩
  · rw [Bool.eq_iff_iff, error_result h hs, error_result h' hs']
    exact exists_needed_congr hreq fun q hq => by rw [(hagree q hq).2.2]
  · rw [Bool.eq_iff_iff, hasAsync_iff h hs, hasAsync_iff h' hs']
    exact hasyncEx
  · rw [List.perm_ext_iff_of_nodup (ctx_param h' hs').2.2.1 (ctx_param h hs).2.2.1]
    intro t
    rw [mem_sigArgs_iff h hs, mem_sigArgs_iff h' hs', hasyncEx, unsupplied_congr hreq]

theorem unneeded_providers_irrelevant {provs0 provs0' provs : List PSpec} {sup : SupMap} {ret : Nat} {p p' : PlanOut}
    (hsh : Shaped provs0 provs0')
    (h : plan provs0 ret = .ok p) (hs : supplierMap provs0 = .ok (provs, sup)) (h' : plan provs0' ret = .ok p')
    (hagree : ∀ q, q < provs0.length → Needed provs sup ret q →
      (provs0'.getD q default).requires = (provs0.getD q default).requires ∧
      (provs0'.getD q default).isAsync = (provs0.getD q default).isAsync ∧
      (provs0'.getD q default).isErr = (provs0.getD q default).isErr) :
    p'.b.isErr = p.b.isErr ∧ hasAsyncNodes p'.g = hasAsyncNodes p.g ∧ (sigArgs p').Perm (sigArgs p) := by
  obtain ⟨ex, he, hs'⟩ := supplierMap_shape hsh hs
  subst he
  refine signature_of_needed h hs h' hs' fun q hq => ?_
  -- the synthetic field providers behind the declared ones are the same in both
  have hlen := shaped_length hsh
  by_cases hql : q < provs0.length
  · rw [List.getD_append_left _ hql, List.getD_append_left _ (hlen ▸ hql)]
    exact hagree q hql hq
  · rw [List.getD_append_right _ (Nat.le_of_not_lt hql), List.getD_append_right _ (hlen ▸ Nat.le_of_not_lt hql), hlen]
    exact ⟨rfl, rfl, rfl⟩

theorem unneeded_provider_irrelevant {provs0 provs : List PSpec} {sup : SupMap} {ret : Nat} {p p' : PlanOut}
    (u : Nat) (x : PSpec) (hx : SameShape (provs0.getD u default) x)
    (h : plan provs0 ret = .ok p) (hs : supplierMap provs0 = .ok (provs, sup)) (hu : ¬ Needed provs sup ret u)
    (h' : plan (provs0.set u x) ret = .ok p') :
    p'.b.isErr = p.b.isErr ∧ hasAsyncNodes p'.g = hasAsyncNodes p.g ∧ (sigArgs p').Perm (sigArgs p) := by
  refine unneeded_providers_irrelevant (shaped_set provs0 u x hx) h hs h' fun q _ hq => ?_
  rw [List.getD_set_ne _ _ fun (e : u = q) => hu (e ▸ hq)]
  exact ⟨rfl, rfl, rfl⟩

/-- signature of the planned injector: parameters and "returns an error" -/
def sigOf (provs0 : List PSpec) (ret : Nat) : Option (List Nat × Bool) :=
  match plan provs0 ret with
  | .ok p => some (sigArgs p, p.b.isErr)
  | .error _ => none

/-- provider 0 makes type 1 from type 2 (which nobody supplies); provider 1 — Async and fallible — makes type 3
    from type 4 and is not needed for type 1 -/
def exDecl : List PSpec :=
  [ { requires := [2], provides := [[1]] },
    { requires := [4], provides := [[3]], isAsync := true, isErr := true } ]

/-- no context parameter and no error result for type 1: the Async, fallible provider is not needed -/
example : sigOf exDecl 1 = some ([2], false) := by decide

/-- asking for type 3 instead needs it: context first, then the unsupplied type 4, and an error result -/
example : sigOf exDecl 3 = some ([ctxTy, 4], true) := by decide

/-- a needed Async provider whose unsupplied requirement is `context.Context` itself: one context parameter -/
example : sigOf [{ requires := [5, ctxTy], provides := [[1]], isAsync := true }] 1 = some ([ctxTy, 5], false) := by decide

/-- a requested type nobody supplies is refused by the model (`plan_ret_supplied`) -/
example : sigOf exDecl 7 = none := by decide

/-- the hypotheses of the theorems above are met by this declaration -/
theorem exDecl_sup : supplierMap exDecl = .ok (exDecl, [(1, (0, 0)), (3, (1, 0))]) := rfl

example : supplierMap exDecl = .ok (exDecl, [(1, (0, 0)), (3, (1, 0))]) := exDecl_sup

example : Needed exDecl [(1, (0, 0)), (3, (1, 0))] 1 0 := .root (gi := 0) rfl

example : ¬ Needed exDecl [(1, (0, 0)), (3, (1, 0))] 1 1 := by
  have key : ∀ q, Needed exDecl [(1, (0, 0)), (3, (1, 0))] 1 q → q = 0 := by
    intro q hq
    induction hq with
    | root hl => cases hl; rfl
    | step _ ht hl ih =>
      subst ih
      cases List.mem_singleton.mp ht
      cases hl
  exact fun hc => absurd (key 1 hc) (by decide)

example : Unsupplied exDecl [(1, (0, 0)), (3, (1, 0))] 1 2 :=
  ⟨rfl, Or.inr ⟨0, .root (gi := 0) rfl, .head _⟩⟩

/-- the declaration is accepted, so `plan … = .ok p` is met as well -/
theorem exDecl_accepted : ∃ p, plan exDecl 1 = .ok p := RefuseExamples.exists_ok_of_isOk (by decide)

example : ∃ p, plan exDecl 1 = .ok p := exDecl_accepted

/-- … and `unneeded_provider_irrelevant` applies to it: provider 1 may be replaced by a synchronous, infallible
    provider with another requirement -/
example : SameShape (exDecl.getD 1 default) { requires := [9], provides := [[3]] } := ⟨rfl, rfl, rfl, rfl, rfl⟩

example : ∃ p', plan (exDecl.set 1 { requires := [9], provides := [[3]] }) 1 = .ok p' :=
  RefuseExamples.exists_ok_of_isOk (by decide)

end KV
