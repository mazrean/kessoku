import KV.Suppliers
/-! # The supplier map reads only `kind`, `provides`, `structTy`, `decl`, `fields` of a provider

`supplierMap_map`: replacing every provider `q` by some `f q` with the same five fields changes nothing but the
declared providers inside the returned list — same error, same supplier map, same synthetic field providers.
`supplierMap_shape` is the same for two declarations that agree in these fields position by position (`Shaped`):
both are the supplier map of their common normal form `shapeOf`. -/
namespace KV

/-- two provider specs that differ at most in `requires`, `isAsync`, `isErr` (and the field name) -/
def SameShape (a b : PSpec) : Prop :=
  a.kind = b.kind ∧ a.provides = b.provides ∧ a.structTy = b.structTy ∧ a.decl = b.decl ∧ a.fields = b.fields

theorem SameShape.refl (a : PSpec) : SameShape a a := ⟨rfl, rfl, rfl, rfl, rfl⟩

/-- position by position, the same shape -/
inductive Shaped : List PSpec → List PSpec → Prop
  | nil : Shaped [] []
  | cons {a b l l'} : SameShape a b → Shaped l l' → Shaped (a :: l) (b :: l')

theorem shaped_refl : ∀ l : List PSpec, Shaped l l
  | [] => .nil
  | a :: l => .cons (SameShape.refl a) (shaped_refl l)

theorem shaped_set : ∀ (l : List PSpec) (u : Nat) (x : PSpec), SameShape (l.getD u default) x →
    Shaped l (l.set u x)
  | [], _, _, _ => .nil
  | _ :: l, 0, _, h => .cons h (shaped_refl l)
  | a :: l, u + 1, x, h => .cons (SameShape.refl a) (shaped_set l u x h)

theorem shaped_length {l l' : List PSpec} (h : Shaped l l') :
    l.length = l'.length := by
  induction h with
  | nil => rfl
  | cons _ _ ih => simp [ih]

theorem shaped_getD {l l' : List PSpec} (h : Shaped l l') (i : Nat) :
    SameShape (l.getD i default) (l'.getD i default) := by
  induction h generalizing i with
  | nil => exact SameShape.refl _
  | cons hab _ ih =>
    cases i with
    | zero => exact hab
    | succ i => exact ih i

section
variable {f : PSpec → PSpec} (hf : ∀ q, SameShape q (f q))
include hf

theorem entries_map (pi : Nat) (ps : List PSpec) : entries pi (ps.map f) = entries pi ps := by
  induction ps generalizing pi with
  | nil => rfl
  | cons p ps ih => simp only [List.map_cons, entries_cons, ih, ← (hf p).1, ← (hf p).2.1]

theorem structsOf_map (ps : List PSpec) : structsOf (ps.map f) = (structsOf ps).map f := by
  unfold structsOf
  rw [List.filter_map]
  exact congrArg _ (List.filter_congr fun q _ => by rw [Function.comp_apply, ← (hf q).1])

/-- the expansion loops read the provider list only for its length and only append to it: what stands in front
    (`pre`, `preB`: the declared providers) is carried along -/
theorem pass2Round_map {pre preB : List PSpec} (hlen : preB.length = pre.length) (sps l : List PSpec) (m : SupMap) :
    pass2Round (sps.map f) (preB ++ l) m =
      (pass2Round sps (pre ++ l) m).map fun r => (preB ++ r.1.drop pre.length, r.2.1, r.2.2.map f) := by
  induction sps generalizing l m with
  | nil => rw [List.map_nil, pass2Round_nil, pass2Round_nil, Except.map, List.drop_left]; rfl
  | cons sp sps ih =>
    obtain ⟨_, _, hst, hd, hfs⟩ := hf sp
    cases hl : m.lookup sp.structTy with
    | none =>
      rw [List.map_cons, pass2Round_cons_none _ _ (hst ▸ hl), pass2Round_cons_none _ _ hl, ih]
      cases pass2Round sps (pre ++ l) m <;> rfl
    | some v =>
      rw [List.map_cons, pass2Round_cons_some _ _ (hst ▸ hl), pass2Round_cons_some _ _ hl, ← hst, ← hd, ← hfs,
        expandFields_eq, expandFields_eq, List.length_append, List.length_append, hlen]
      cases insNew (sp.fields.map (·.2)) (pre.length + l.length) m with
      | error e => rfl
      | ok m1 =>
        simp only [Except.map, List.append_assoc]
        exact ih _ m1

theorem pass2_map {pre preB : List PSpec} (hlen : preB.length = pre.length) (sps l : List PSpec) (m : SupMap) :
    pass2 (sps.map f) (preB ++ l) m = (pass2 sps (pre ++ l) m).map fun r => (preB ++ r.1.drop pre.length, r.2) := by
  induction hn : sps.length using Nat.strongRecOn generalizing sps l m with
  | _ n ih =>
    cases sps with
    | nil => rw [List.map_nil, pass2_nil, pass2_nil, Except.map, List.drop_left]
    | cons sp sps =>
      rw [List.map_cons, pass2_cons, pass2_cons, ← List.map_cons, pass2Round_map hf hlen]
      cases hr : pass2Round (sp :: sps) (pre ++ l) m with
      | error e => rfl
      | ok r =>
        obtain ⟨ex, hex⟩ := pass2Round_extends hr
        have hhead : ((r.2.2.map f).headD (f sp)).structTy = (r.2.2.headD sp).structTy := by
          rw [List.headD_map]; exact (hf _).2.2.1.symm
        simp only [Except.map, List.length_map, hhead]
        split
        · rfl
        · rename_i hnp
          rw [hex, List.append_assoc, List.drop_left]
          exact ih _ (hn ▸ Nat.lt_of_le_of_ne (pass2Round_length hr) hnp) _ _ _ rfl

theorem supplierMap_map (ps : List PSpec) :
    supplierMap (ps.map f) = (supplierMap ps).map fun r => (ps.map f ++ r.1.drop ps.length, r.2) := by
  have h1 : pass1 0 (ps.map f) [] = pass1 0 ps [] := by rw [pass1_eq, pass1_eq, entries_map hf]
  unfold supplierMap
  rw [h1]
  cases pass1 0 ps [] with
  | error e => rfl
  | ok sup1 =>
    have := pass2_map hf (List.length_map f (as := ps)) (structsOf ps) [] sup1
    rw [List.append_nil, List.append_nil, ← structsOf_map hf] at this
    exact this

end

def shapeOf (q : PSpec) : PSpec :=
  { kind := q.kind, provides := q.provides, structTy := q.structTy, decl := q.decl, fields := q.fields }

theorem sameShape_shapeOf (q : PSpec) : SameShape q (shapeOf q) := ⟨rfl, rfl, rfl, rfl, rfl⟩

theorem Shaped.map_shapeOf {l l' : List PSpec} (h : Shaped l l') : l.map shapeOf = l'.map shapeOf := by
  induction h with
  | nil => rfl
  | cons hab _ ih =>
    obtain ⟨h1, h2, h3, h4, h5⟩ := hab
    simp only [List.map_cons, ih, shapeOf, h1, h2, h3, h4, h5]

theorem supplierMap_shape {provs0 provs0' provs : List PSpec} {sup : SupMap}
    (hsh : Shaped provs0 provs0') (hs : supplierMap provs0 = .ok (provs, sup)) :
    ∃ ex, provs = provs0 ++ ex ∧ supplierMap provs0' = .ok (provs0' ++ ex, sup) := by
  obtain ⟨ex, rfl⟩ := (supplierMap_spec hs).ext
  refine ⟨ex, rfl, ?_⟩
  -- both declarations have the supplier map of their common normal form
  have e := supplierMap_map sameShape_shapeOf provs0'
  rw [← hsh.map_shapeOf, supplierMap_map sameShape_shapeOf provs0, hs] at e
  cases hs' : supplierMap provs0' with
  | error e0 => rw [hs'] at e; cases e
  | ok r' =>
    obtain ⟨ex', hx'⟩ := (supplierMap_spec (provs := r'.1) (sup := r'.2) hs').ext
    rw [hs'] at e
    simp only [Except.map, Except.ok.injEq, Prod.mk.injEq, hx', List.drop_left] at e
    rw [show r' = (r'.1, r'.2) from rfl, hx', ← List.append_cancel_left e.1, ← e.2]

end KV
