import KV.Bfs
import KV.PlanBasics
/-! The BFS of `NewGraph` (`graph.go`; model: `pickNode`, `reqStep`, `bfsRequires`, `bfsLoop` of `KV/Plan.lean`):
    what one step does to each field of the state, one induction principle for the loop, and the structural
    invariant `BInv` (the tables are as long as `nodes`, `edges` and `rev` mirror each other, no slot is wired
    twice, every visited node has all its slots wired) with the lemma by which any further invariant of the
    requirement steps is carried through the loop (`bfsLoop_preserve`). -/

namespace KV
/-! ### the invariant -/

def slotsOfNode (provs : List PSpec) (nd : Node) : Nat :=
  if nd.isArg then 0 else (provs.getD nd.prov default).requires.length
def groupsOfNode (provs : List PSpec) (nd : Node) : Nat :=
  if nd.isArg then 1 else (provs.getD nd.prov default).provides.length

def expectedRev (provs : List PSpec) (st : BfsSt) (cur : Option (Nat × Nat)) (m : Nat) : Nat :=
  if m ∈ st.visited then
    match cur with
    | some (c, i) => if m = c then i else slotsOfNode provs (st.nodes.getD m default)
    | none => slotsOfNode provs (st.nodes.getD m default)
  else 0

theorem expectedRev_self {provs : List PSpec} {st : BfsSt} {c i : Nat} (h : c ∈ st.visited) :
    expectedRev provs st (some (c, i)) c = i := by
  rw [expectedRev, if_pos h]; exact if_pos rfl

theorem expectedRev_of_ne {provs : List PSpec} {st : BfsSt} {c i m : Nat} (h : m ≠ c) :
    expectedRev provs st (some (c, i)) m = expectedRev provs st none m := by
  unfold expectedRev
  split
  · exact if_neg h
  · rfl

structure BInv (provs : List PSpec) (st : BfsSt) (cur : Option (Nat × Nat)) : Prop where
  lenE : st.edges.length = st.nodes.length
  lenR : st.rev.length = st.nodes.length
  qLt : ∀ m ∈ st.queue, m < st.nodes.length
  vLt : ∀ m ∈ st.visited, m < st.nodes.length
  seen : ∀ m, m < st.nodes.length → m ∈ st.queue ∨ m ∈ st.visited
  edgeOK : ∀ n2 e, e ∈ st.edges.getD n2 [] → n2 < st.nodes.length ∧ e.dst ∈ st.visited ∧
      (st.rev.getD e.dst [])[e.slot]? = some n2 ∧ e.src < groupsOfNode provs (st.nodes.getD n2 default)
  revOK : ∀ m i d, (st.rev.getD m [])[i]? = some d → ∃ e ∈ st.edges.getD d [], e.dst = m ∧ e.slot = i
  uniq : ∀ n n' e e', e ∈ st.edges.getD n [] → e' ∈ st.edges.getD n' [] →
      e.dst = e'.dst → e.slot = e'.slot → n = n' ∧ e = e'
  revLen : ∀ m, m < st.nodes.length → (st.rev.getD m []).length = expectedRev provs st cur m
  provNodeOK : ∀ p n2, st.provNode.lookup p = some n2 →
      n2 < st.nodes.length ∧ st.nodes.getD n2 default = { isArg := false, prov := p }
  argNodeOK : ∀ t n2, st.argNode.lookup t = some n2 →
      n2 < st.nodes.length ∧ (st.nodes.getD n2 default).isArg = true ∧ (st.nodes.getD n2 default).ty = t

/-- facts every step preserves about the already existing part of the state -/
structure Ext (st st' : BfsSt) : Prop where
  visited : st'.visited = st.visited
  nodesLe : st.nodes.length ≤ st'.nodes.length
  nodesKeep : ∀ m, m < st.nodes.length → st'.nodes.getD m default = st.nodes.getD m default

theorem Ext.of_prefix {st st' : BfsSt} (hv : st'.visited = st.visited) (hp : st.nodes <+: st'.nodes) : Ext st st' := by
  obtain ⟨r, hr⟩ := hp
  exact ⟨hv, by rw [← hr]; simp, fun m hm => by rw [← hr]; exact List.getD_append_left default hm⟩

/-- requirement list of node `n` (none for an argument node) -/
def reqOf (provs : List PSpec) (st : BfsSt) (n : Nat) : List Nat :=
  if (st.nodes.getD n default).isArg then [] else (provs.getD (st.nodes.getD n default).prov default).requires

theorem length_reqOf (provs : List PSpec) (st : BfsSt) (m : Nat) :
    (reqOf provs st m).length = slotsOfNode provs (st.nodes.getD m default) := by
  unfold reqOf slotsOfNode; split <;> rfl

theorem reqOf_spec (provs : List PSpec) (st : BfsSt) (n : Nat) (h : (st.nodes.getD n default).isArg = false) :
    reqOf provs st n = (provs.getD (st.nodes.getD n default).prov default).requires := by
  unfold reqOf; rw [h]; rfl

theorem reqOf_ext {provs : List PSpec} {st st' : BfsSt} (hx : Ext st st') (m : Nat) (hm : m < st.nodes.length) :
    reqOf provs st' m = reqOf provs st m := by
  unfold reqOf; rw [hx.nodesKeep m hm]

theorem mem_requires_of_reqOf {provs : List PSpec} {st : BfsSt} {n i t : Nat} (h : (reqOf provs st n)[i]? = some t) :
    (st.nodes.getD n default).isArg = false ∧ t ∈ (provs.getD (st.nodes.getD n default).prov default).requires := by
  have hm := List.mem_of_getElem? h
  unfold reqOf at hm
  split at hm
  · cases hm
  · rename_i hna
    exact ⟨by simpa using hna, hm⟩

/-! ### what `pickNode` and `reqStep` do -/

theorem pickNode_cases (sup : SupMap) (t : Nat) (st : BfsSt) :
    (∃ p gi, sup.lookup t = some (p, gi) ∧
      ((∃ n2, st.provNode.lookup p = some n2 ∧ pickNode sup t st = (st, n2, gi)) ∨
       (st.provNode.lookup p = none ∧ pickNode sup t st =
          ({ st with nodes := st.nodes ++ [{ isArg := false, prov := p }], edges := st.edges ++ [[]],
                     rev := st.rev ++ [[]], queue := st.queue ++ [st.nodes.length],
                     provNode := st.provNode ++ [(p, st.nodes.length)] }, st.nodes.length, gi)))) ∨
    (sup.lookup t = none ∧
      ((∃ n2, st.argNode.lookup t = some n2 ∧ pickNode sup t st = (st, n2, 0)) ∨
       (st.argNode.lookup t = none ∧ pickNode sup t st =
          ({ st with nodes := st.nodes ++ [{ isArg := true, ty := t }], edges := st.edges ++ [[]],
                     rev := st.rev ++ [[]], queue := st.queue ++ [st.nodes.length],
                     argNode := st.argNode ++ [(t, st.nodes.length)] }, st.nodes.length, 0)))) := by
  unfold pickNode
  cases sup.lookup t with
  | some r =>
    obtain ⟨p, gi⟩ := r
    refine Or.inl ⟨p, gi, rfl, ?_⟩
    dsimp only
    cases st.provNode.lookup p with
    | some n2 => exact Or.inl ⟨n2, rfl, rfl⟩
    | none => exact Or.inr ⟨rfl, rfl⟩
  | none =>
    refine Or.inr ⟨rfl, ?_⟩
    dsimp only
    cases st.argNode.lookup t with
    | some n2 => exact Or.inl ⟨n2, rfl, rfl⟩
    | none => exact Or.inr ⟨rfl, rfl⟩

theorem pickNode_visited (sup : SupMap) (t : Nat) (st : BfsSt) : (pickNode sup t st).1.visited = st.visited := by
  rcases pickNode_cases sup t st with ⟨_, _, _, ⟨_, _, h⟩ | ⟨_, h⟩⟩ | ⟨_, ⟨_, _, h⟩ | ⟨_, h⟩⟩ <;> rw [h]

theorem pickNode_edges_getD (sup : SupMap) (t : Nat) (st : BfsSt) (n : Nat) :
    (pickNode sup t st).1.edges.getD n [] = st.edges.getD n [] := by
  rcases pickNode_cases sup t st with ⟨_, _, _, ⟨_, _, h⟩ | ⟨_, h⟩⟩ | ⟨_, ⟨_, _, h⟩ | ⟨_, h⟩⟩ <;> rw [h]
  · exact List.getD_append_default st.edges [] n
  · exact List.getD_append_default st.edges [] n

/-- `pickNode` leaves `nodes` and `queue` alone, or appends one node, which it queues and returns -/
theorem pickNode_nodes_cases (sup : SupMap) (t : Nat) (st : BfsSt) :
    ((pickNode sup t st).1.nodes = st.nodes ∧ (pickNode sup t st).1.queue = st.queue) ∨
    ∃ nd, (pickNode sup t st).1.nodes = st.nodes ++ [nd] ∧
      (pickNode sup t st).1.queue = st.queue ++ [st.nodes.length] ∧ (pickNode sup t st).2.1 = st.nodes.length := by
  rcases pickNode_cases sup t st with ⟨_, _, _, ⟨_, _, h⟩ | ⟨_, h⟩⟩ | ⟨_, ⟨_, _, h⟩ | ⟨_, h⟩⟩ <;> rw [h]
  · exact Or.inl ⟨rfl, rfl⟩
  · exact Or.inr ⟨_, rfl, rfl, rfl⟩
  · exact Or.inl ⟨rfl, rfl⟩
  · exact Or.inr ⟨_, rfl, rfl, rfl⟩

theorem pickNode_nodes_prefix (sup : SupMap) (t : Nat) (st : BfsSt) : st.nodes <+: (pickNode sup t st).1.nodes := by
  rcases pickNode_nodes_cases sup t st with ⟨h, _⟩ | ⟨nd, h, _⟩ <;> rw [h]
  · exact List.prefix_refl _
  · exact List.prefix_append _ _

/-- `reqStep` is `pickNode` followed by the insertion of the edge, which touches `edges` and `rev` only -/
theorem reqStep_ext (sup : SupMap) (n1 i t : Nat) (st : BfsSt) : Ext st (reqStep sup n1 i t st) :=
  Ext.of_prefix (pickNode_visited sup t st) (pickNode_nodes_prefix sup t st)

theorem bfsRequires_cons (provs : List PSpec) (sup : SupMap) (n1 i t : Nat) (ts : List Nat) (st : BfsSt) :
    bfsRequires provs sup n1 i (t :: ts) st = bfsRequires provs sup n1 (i + 1) ts (reqStep sup n1 i t st) := rfl

/-! ### one induction for the loop -/

/-- One iteration.  The model reads `nodes[n1]?`: a queued index beyond `nodes` (`BInv.qLt` excludes it) would be visited
    without requirements. -/
theorem bfsLoop_succ (provs : List PSpec) (sup : SupMap) (fuel : Nat) (st : BfsSt) :
    bfsLoop provs sup (fuel + 1) st =
      match st.queue with
      | [] => st
      | n1 :: q =>
        if st.visited.contains n1 then bfsLoop provs sup fuel { st with queue := q }
        else bfsLoop provs sup fuel
          (bfsRequires provs sup n1 0 (if n1 < st.nodes.length then reqOf provs st n1 else [])
            { st with queue := q, visited := st.visited ++ [n1] }) := by
  rw [bfsLoop]
  cases st.queue with
  | nil => rfl
  | cons n1 q =>
    dsimp only
    split
    · rfl
    · by_cases hn : n1 < st.nodes.length
      · rw [if_pos hn, reqOf, List.getD_eq_getElem _ hn, List.getElem?_eq_getElem hn]
        dsimp only
        split <;> rfl
      · rw [if_neg hn, List.getElem?_eq_none (Nat.le_of_not_lt hn)]
        rfl

/-- The cursor is `none` between two nodes and `some (n1, i, ts)` while node `n1` is being wired: `i` is the next slot,
    `ts` the requirement keys still to come.  The first argument of `P` is the fuel left. -/
theorem bfsLoop_induction {provs : List PSpec} {sup : SupMap}
    {P : Nat → BfsSt → Option (Nat × Nat × List Nat) → Prop}
    (drop : ∀ {k} {st : BfsSt} {n1 q}, st.queue = n1 :: q → n1 ∈ st.visited → P (k + 1) st none →
      P k { st with queue := q } none)
    (visit : ∀ {k} {st : BfsSt} {n1 q}, st.queue = n1 :: q → n1 ∉ st.visited → P (k + 1) st none →
      P k { st with queue := q, visited := st.visited ++ [n1] }
        (some (n1, 0, if n1 < st.nodes.length then reqOf provs st n1 else [])))
    (req : ∀ {k} {st : BfsSt} {n1 i t ts}, P k st (some (n1, i, t :: ts)) →
      P k (reqStep sup n1 i t st) (some (n1, i + 1, ts)))
    (close : ∀ {k} {st : BfsSt} {n1 i}, P k st (some (n1, i, [])) → P k st none)
    {fuel : Nat} {st : BfsSt} (h : P fuel st none) :
    ∃ k, P k (bfsLoop provs sup fuel st) none ∧ (k = 0 ∨ (bfsLoop provs sup fuel st).queue = []) := by
  have reqs : ∀ (ts : List Nat) {k} {st : BfsSt} {n1 i}, P k st (some (n1, i, ts)) →
      P k (bfsRequires provs sup n1 i ts st) none := by
    intro ts
    induction ts with
    | nil => exact fun h => close h
    | cons t ts ih => exact fun h => ih (req h)
  induction fuel generalizing st with
  | zero => exact ⟨0, h, Or.inl rfl⟩
  | succ k ih =>
    rw [bfsLoop_succ]
    split
    · rename_i hq; exact ⟨k + 1, h, Or.inr hq⟩
    · rename_i n1 q hq
      split
      · rename_i hv
        exact ih (drop hq (by simpa using hv) h)
      · rename_i hv
        exact ih (reqs _ (visit hq (by simpa using hv) h))

theorem bfsLoop_keeps {provs : List PSpec} {sup : SupMap} {Q : BfsSt → Prop}
    (frame : ∀ {st : BfsSt} (q v : List Nat), Q st → Q { st with queue := q, visited := v })
    (step : ∀ {st : BfsSt} (n1 i t : Nat), Q st → Q (reqStep sup n1 i t st))
    (fuel : Nat) {st : BfsSt} (h : Q st) : Q (bfsLoop provs sup fuel st) :=
  (bfsLoop_induction (P := fun _ st _ => Q st) (fun _ _ h => frame _ _ h) (fun _ _ h => frame _ _ h)
    (fun h => step _ _ _ h) id (fuel := fuel) h).elim fun _ h => h.1

theorem bfsLoop_nodes_prefix (provs : List PSpec) (sup : SupMap) (fuel : Nat) (st : BfsSt) :
    st.nodes <+: (bfsLoop provs sup fuel st).nodes :=
  bfsLoop_keeps (Q := fun st' => st.nodes <+: st'.nodes) (fun _ _ h => h)
    (fun _ _ t h => h.trans (pickNode_nodes_prefix sup t _)) fuel (List.prefix_refl _)

/-! ### the steps keep `BInv` -/

theorem addNode_inv {provs : List PSpec} {st : BfsSt} {cur : Option (Nat × Nat)} (h : BInv provs st cur) (nd : Node) :
    BInv provs (addNode st nd).1 cur := by
  have hN : ∀ m, m < st.nodes.length → (st.nodes ++ [nd]).getD m default = st.nodes.getD m default :=
    fun m hm => List.getD_append_left default hm
  simp only [addNode]
  refine { lenE := by simp [h.lenE], lenR := by simp [h.lenR], qLt := ?qLt, vLt := ?vLt, seen := ?seen, edgeOK := ?edgeOK,
           revOK := ?revOK, uniq := ?uniq, revLen := ?revLen, provNodeOK := ?provNodeOK, argNodeOK := ?argNodeOK } <;>
    simp only [List.getD_append_default, List.length_append, List.length_singleton, List.mem_append,
      List.mem_singleton]
  case qLt =>
    rintro m (hm | rfl)
    · exact Nat.lt_succ_of_lt (h.qLt m hm)
    · exact Nat.lt_succ_self _
  case vLt =>
    exact fun m hm => Nat.lt_succ_of_lt (h.vLt m hm)
  case seen =>
    intro m hm
    rcases Nat.lt_succ_iff_lt_or_eq.mp hm with hm | rfl
    · exact (h.seen m hm).imp Or.inl id
    · exact Or.inl (Or.inr rfl)
  case edgeOK =>
    intro n2 e he
    obtain ⟨h1, h2, h3, h4⟩ := h.edgeOK n2 e he
    exact ⟨Nat.lt_succ_of_lt h1, h2, h3, by rw [hN n2 h1]; exact h4⟩
  case revOK =>
    exact h.revOK
  case uniq =>
    exact h.uniq
  case revLen =>
    intro m hm
    rcases Nat.lt_succ_iff_lt_or_eq.mp hm with hm | rfl
    · rw [h.revLen m hm]
      simp only [expectedRev, hN m hm]
    · -- the new node: its row of `rev` does not exist yet, and it is not visited
      rw [List.getD_eq_default [] (Nat.le_of_eq h.lenR)]
      simp only [expectedRev, List.length_nil]
      rw [if_neg fun hv => Nat.lt_irrefl _ (h.vLt _ hv)]
  case provNodeOK =>
    intro p n2 hl
    obtain ⟨h1, h2⟩ := h.provNodeOK p n2 hl
    exact ⟨Nat.lt_succ_of_lt h1, by rw [hN n2 h1]; exact h2⟩
  case argNodeOK =>
    intro t n2 hl
    obtain ⟨h1, h2⟩ := h.argNodeOK t n2 hl
    exact ⟨Nat.lt_succ_of_lt h1, by rw [hN n2 h1]; exact h2⟩

theorem addEdge_inv {provs : List PSpec} {st : BfsSt} {n1 i n2 src : Nat}
    (h : BInv provs st (some (n1, i))) (hn1v : n1 ∈ st.visited)
    (hn2 : n2 < st.nodes.length) (hsrc : src < groupsOfNode provs (st.nodes.getD n2 default)) :
    BInv provs { st with edges := listModify st.edges n2 (· ++ [{ dst := n1, src := src, slot := i }]),
                         rev := listModify st.rev n1 (· ++ [n2]) } (some (n1, i + 1)) := by
  have hn1R : n1 < st.rev.length := by rw [h.lenR]; exact h.vLt n1 hn1v
  have hn2E : n2 < st.edges.length := by rw [h.lenE]; exact hn2
  -- slot `i` of `n1` is the first unwired one
  have hrevlen : (st.rev.getD n1 []).length = i := by rw [h.revLen n1 (h.vLt n1 hn1v), expectedRev_self hn1v]
  -- no edge feeds slot `i` of `n1` yet
  have hfresh : ∀ n e, e ∈ st.edges.getD n [] → e.dst = n1 → e.slot ≠ i := by
    intro n e he hd hs
    have h3 := (h.edgeOK n e he).2.2.1
    rw [hd, hs] at h3
    exact absurd (List.lt_length_of_getElem? h3) (by omega)
  refine { lenE := (listModify_length _ _ _).trans h.lenE, lenR := (listModify_length _ _ _).trans h.lenR, qLt := h.qLt,
           vLt := h.vLt, seen := h.seen, edgeOK := ?edgeOK, revOK := ?revOK, uniq := ?uniq, revLen := ?revLen,
           provNodeOK := h.provNodeOK, argNodeOK := h.argNodeOK }
  case edgeOK =>
    intro n e he
    rcases (mem_listModify_row hn2E).mp he with he' | ⟨rfl, rfl⟩
    · obtain ⟨h1, h2, h3, h4⟩ := h.edgeOK n e he'
      exact ⟨h1, h2, (getElem?_listModify_row hn1R).mpr (Or.inl h3), h4⟩
    · exact ⟨hn2, hn1v, (getElem?_listModify_row hn1R).mpr (Or.inr ⟨rfl, rfl, hrevlen.symm⟩), hsrc⟩
  case revOK =>
    intro m k d hr
    rcases (getElem?_listModify_row hn1R).mp hr with hr' | ⟨rfl, rfl, rfl⟩
    · exact (h.revOK m k d hr').imp fun e he => ⟨(mem_listModify_row hn2E).mpr (Or.inl he.1), he.2⟩
    · exact ⟨_, (mem_listModify_row hn2E).mpr (Or.inr ⟨rfl, rfl⟩), rfl, hrevlen.symm⟩
  case uniq =>
    intro n n' e e' he he' hd hs
    rcases (mem_listModify_row hn2E).mp he with h1 | ⟨rfl, rfl⟩ <;>
      rcases (mem_listModify_row hn2E).mp he' with h2 | ⟨rfl, rfl⟩
    · exact h.uniq n n' e e' h1 h2 hd hs
    · exact absurd hs (hfresh n e h1 hd)
    · exact absurd hs.symm (hfresh n' e' h2 hd.symm)
    · exact ⟨rfl, rfl⟩
  case revLen =>
    intro m hm
    show ((listModify st.rev n1 (· ++ [n2])).getD m []).length = _
    by_cases hmn : m = n1
    · rw [hmn, getD_listModify, if_pos ⟨rfl, hn1R⟩, List.length_append, hrevlen]
      exact (expectedRev_self hn1v).symm
    · rw [getD_listModify, if_neg fun hc => hmn hc.1.symm, h.revLen m hm]
      exact (expectedRev_of_ne hmn).trans (expectedRev_of_ne hmn).symm

/-- node `n2`, read at result group `src`, is what the supplier map has for key `t` -/
def ProvOK (sup : SupMap) (st : BfsSt) (n2 src t : Nat) : Prop :=
  (∃ p gi, sup.lookup t = some (p, gi) ∧ (st.nodes.getD n2 default).isArg = false ∧
      (st.nodes.getD n2 default).prov = p ∧ src = gi) ∨
  (sup.lookup t = none ∧ (st.nodes.getD n2 default).isArg = true ∧ (st.nodes.getD n2 default).ty = t ∧ src = 0)

theorem ProvOK.src_lt {provs : List PSpec} {sup : SupMap} (hsup : SupOK provs sup) {st : BfsSt} {n2 src t : Nat}
    (h : ProvOK sup st n2 src t) : src < groupsOfNode provs (st.nodes.getD n2 default) := by
  unfold groupsOfNode
  rcases h with ⟨p, gi, hs, hna, rfl, rfl⟩ | ⟨_, ha, _, rfl⟩
  · rw [hna]; exact hsup t _ _ hs
  · rw [ha]; exact Nat.one_pos

/-- `pickNode` returns a node of the new state that stands for key `t` -/
theorem pickNode_inv {provs : List PSpec} {sup : SupMap} {st : BfsSt} {cur : Option (Nat × Nat)} (t : Nat)
    (h : BInv provs st cur) :
    BInv provs (pickNode sup t st).1 cur ∧ (pickNode sup t st).2.1 < (pickNode sup t st).1.nodes.length ∧
    ProvOK sup (pickNode sup t st).1 (pickNode sup t st).2.1 (pickNode sup t st).2.2 t := by
  have hnew : ∀ nd : Node, (st.nodes ++ [nd]).getD st.nodes.length default = nd := fun _ => List.getD_concat_length default
  have hlen : ∀ nd : Node, st.nodes.length < (st.nodes ++ [nd]).length := fun _ => by simp
  rcases pickNode_cases sup t st with ⟨p, gi, hs, ⟨n2, hr, heq⟩ | ⟨hr, heq⟩⟩ | ⟨hs, ⟨n2, hr, heq⟩ | ⟨hr, heq⟩⟩ <;> rw [heq]
  · obtain ⟨hn2, hnode⟩ := h.provNodeOK p n2 hr
    exact ⟨h, hn2, Or.inl ⟨p, gi, hs, congrArg Node.isArg hnode, congrArg Node.prov hnode, rfl⟩⟩
  · have hadd := addNode_inv h { isArg := false, prov := p }
    refine ⟨{ hadd with provNodeOK := ?_ }, hlen _,
      Or.inl ⟨p, gi, hs, congrArg Node.isArg (hnew _), congrArg Node.prov (hnew _), rfl⟩⟩
    intro q n2 hq
    rcases List.lookup_concat_eq_some.mp hq with hq' | ⟨_, rfl, rfl⟩
    · exact hadd.provNodeOK q n2 hq'
    · exact ⟨hlen _, hnew _⟩
  · obtain ⟨hn2, hisarg, hty⟩ := h.argNodeOK t n2 hr
    exact ⟨h, hn2, Or.inr ⟨hs, hisarg, hty, rfl⟩⟩
  · have hadd := addNode_inv h { isArg := true, ty := t }
    refine ⟨{ hadd with argNodeOK := ?_ }, hlen _,
      Or.inr ⟨hs, congrArg Node.isArg (hnew _), congrArg Node.ty (hnew _), rfl⟩⟩
    intro q n2 hq
    rcases List.lookup_concat_eq_some.mp hq with hq' | ⟨_, rfl, rfl⟩
    · exact hadd.argNodeOK q n2 hq'
    · exact ⟨hlen _, congrArg Node.isArg (hnew _), congrArg Node.ty (hnew _)⟩

theorem mem_reqStep_edges {provs : List PSpec} {sup : SupMap} {st : BfsSt}
    {cur : Option (Nat × Nat)} (h : BInv provs st cur) (n1 i t : Nat) {n : Nat} {e : Edge} :
    e ∈ (reqStep sup n1 i t st).edges.getD n [] ↔ e ∈ st.edges.getD n [] ∨
      (e = { dst := n1, src := (pickNode sup t st).2.2, slot := i } ∧ n = (pickNode sup t st).2.1) := by
  obtain ⟨h1, hlt, _⟩ := pickNode_inv (sup := sup) t h
  rw [← pickNode_edges_getD sup t st n]
  exact mem_listModify_row (by rw [h1.lenE]; exact hlt)

theorem reqStep_inv {provs : List PSpec} {sup : SupMap} (hsup : SupOK provs sup) {st : BfsSt} {n1 i : Nat} (t : Nat)
    (h : BInv provs st (some (n1, i))) (hn1 : n1 ∈ st.visited) :
    BInv provs (reqStep sup n1 i t st) (some (n1, i + 1)) := by
  obtain ⟨h1, hlt, hprov⟩ := pickNode_inv (sup := sup) t h
  exact addEdge_inv h1 (by rw [pickNode_visited]; exact hn1) hlt (hprov.src_lt hsup)

theorem BInv.closeCur {provs : List PSpec} {st : BfsSt} {c i : Nat} (h : BInv provs st (some (c, i)))
    (hi : i = slotsOfNode provs (st.nodes.getD c default)) : BInv provs st none :=
  { h with
    revLen := by
      intro m hm
      rw [h.revLen m hm]
      simp only [expectedRev]
      split
      · split
        · rename_i hmc; rw [hmc, hi]
        · rfl
      · rfl }

/-- a visited node is popped off the queue -/
theorem BInv.dropQueue {provs : List PSpec} {st : BfsSt} {cur : Option (Nat × Nat)} {n1 : Nat} {q : List Nat}
    (h : BInv provs st cur) (hq : st.queue = n1 :: q) (hv : n1 ∈ st.visited) : BInv provs { st with queue := q } cur :=
  { h with
    qLt := fun m hm => h.qLt m (by rw [hq]; exact List.mem_cons_of_mem _ hm)
    seen := fun m hm => by
      rcases h.seen m hm with h1 | h1
      · rw [hq] at h1
        rcases List.mem_cons.mp h1 with rfl | h1
        · exact Or.inr hv
        · exact Or.inl h1
      · exact Or.inr h1 }

/-- an unvisited node is marked visited and becomes the one being wired, at slot 0 -/
theorem BInv.mark {provs : List PSpec} {st : BfsSt} {n1 : Nat} (h : BInv provs st none) (hn1 : n1 < st.nodes.length)
    (hnv : n1 ∉ st.visited) : BInv provs { st with visited := st.visited ++ [n1] } (some (n1, 0)) := by
  refine { h with vLt := ?vLt, seen := fun m hm => (h.seen m hm).imp_right (List.mem_append_left _),
                  edgeOK := ?edgeOK, revLen := ?revLen }
  case vLt =>
    intro m hm
    rcases List.mem_append.mp hm with hm | hm
    · exact h.vLt m hm
    · rw [List.mem_singleton.mp hm]; exact hn1
  case edgeOK =>
    intro n2 e he
    obtain ⟨a, b, c, d⟩ := h.edgeOK n2 e he
    exact ⟨a, List.mem_append_left _ b, c, d⟩
  case revLen =>
    intro m hm
    rw [h.revLen m hm]
    simp only [expectedRev, List.mem_append, List.mem_singleton]
    by_cases hmn : m = n1
    · subst hmn
      simp [hnv]
    · simp [hmn]

theorem visit_inv {provs : List PSpec} {st : BfsSt} {n1 : Nat} {q : List Nat} (h : BInv provs st none)
    (hq : st.queue = n1 :: q) (hnv : n1 ∉ st.visited) :
    BInv provs { st with queue := q, visited := st.visited ++ [n1] } (some (n1, 0)) :=
  (h.mark (h.qLt n1 (by rw [hq]; exact List.mem_cons_self ..)) hnv).dropQueue hq
    (List.mem_append_right _ (List.mem_singleton_self n1))

/-! ### the loop keeps `BInv`, and whatever the requirement steps keep -/

/-- `BInv` under the cursor of `bfsLoop_induction` -/
def BCur (provs : List PSpec) (st : BfsSt) : Option (Nat × Nat × List Nat) → Prop
  | none => BInv provs st none
  | some (n1, i, ts) =>
    BInv provs st (some (n1, i)) ∧ n1 ∈ st.visited ∧ ∃ pre, reqOf provs st n1 = pre ++ ts ∧ pre.length = i

theorem bfsLoop_preserve {provs : List PSpec} {sup : SupMap} (hsup : SupOK provs sup) {Q : BfsSt → Prop}
    (frame : ∀ {st : BfsSt} (q v : List Nat), Q st → Q { st with queue := q, visited := v })
    (step : ∀ {st : BfsSt} {n1 i : Nat} (t : Nat), BInv provs st (some (n1, i)) → n1 ∈ st.visited →
      (reqOf provs st n1)[i]? = some t → Q st → Q (reqStep sup n1 i t st))
    (fuel : Nat) {st : BfsSt} (h : BInv provs st none) (hQ : Q st) :
    BInv provs (bfsLoop provs sup fuel st) none ∧ Q (bfsLoop provs sup fuel st) := by
  refine (bfsLoop_induction (P := fun _ st cur => BCur provs st cur ∧ Q st) ?_ ?_ ?_ ?_ (fuel := fuel) ⟨h, hQ⟩).elim
    fun _ h => h.1
  · exact fun hq hv h => ⟨h.1.dropQueue hq hv, frame _ _ h.2⟩
  · intro _ st n1 q hq hnv h
    have hn1 : n1 < st.nodes.length := h.1.qLt n1 (by rw [hq]; exact List.mem_cons_self ..)
    exact ⟨⟨visit_inv h.1 hq hnv, by simp, [], by rw [if_pos hn1]; rfl, rfl⟩, frame _ _ h.2⟩
  · rintro _ st n1 i t ts ⟨⟨hb, hv, pre, hpre, hlen⟩, hx⟩
    have hext := reqStep_ext sup n1 i t st
    have hget : (reqOf provs st n1)[i]? = some t := by simp [hpre, ← hlen]
    refine ⟨⟨reqStep_inv hsup t hb hv, by rw [hext.visited]; exact hv, pre ++ [t], ?_, by simp [hlen]⟩,
      step t hb hv hget hx⟩
    rw [reqOf_ext hext _ (hb.vLt n1 hv), hpre, List.append_assoc]; rfl
  · rintro _ st n1 i ⟨⟨hb, _, pre, hpre, hlen⟩, hx⟩
    refine ⟨hb.closeCur ?_, hx⟩
    rw [← length_reqOf, hpre, List.append_nil, hlen]

theorem bfsLoop_inv {provs : List PSpec} {sup : SupMap} (hsup : SupOK provs sup) (fuel : Nat) {st : BfsSt}
    (h : BInv provs st none) : BInv provs (bfsLoop provs sup fuel st) none :=
  (bfsLoop_preserve hsup (Q := fun _ => True) (fun _ _ _ => trivial) (fun _ _ _ _ _ => trivial) fuel h trivial).1

theorem bfsInit_edges_getD (rp n : Nat) : (bfsInit rp).edges.getD n [] = [] := List.getD_singleton_default [] n

theorem bfsInit_inv (provs : List PSpec) (rp : Nat) : BInv provs (bfsInit rp) none := by
  have hE : ∀ n (e : Edge), e ∉ (bfsInit rp).edges.getD n [] := fun n e he => by
    rw [bfsInit_edges_getD] at he; cases he
  have hR : ∀ m, (bfsInit rp).rev.getD m [] = [] := List.getD_singleton_default []
  exact {
    lenE := rfl, lenR := rfl
    qLt := fun m hm => by rw [List.mem_singleton.mp hm]; exact Nat.zero_lt_one
    vLt := fun _ hm => nomatch hm
    seen := fun m hm => by rw [Nat.lt_one_iff.mp hm]; exact Or.inl (List.mem_singleton.mpr rfl)
    edgeOK := fun n e he => absurd he (hE n e)
    revOK := fun m i d hr => by rw [hR] at hr; cases hr
    uniq := fun n _ e _ he => absurd he (hE n e)
    revLen := fun m _ => by rw [hR]; rfl
    provNodeOK := fun _ _ h => nomatch h
    argNodeOK := fun _ _ h => nomatch h }

theorem BInv.dst_lt {provs : List PSpec} {st : BfsSt} {cur : Option (Nat × Nat)} (h : BInv provs st cur) {n : Nat} {e : Edge}
    (he : e ∈ st.edges.getD n []) : e.dst < st.nodes.length :=
  h.vLt _ (h.edgeOK n e he).2.1

/-- in a drained state every node is visited, so `rev[m]` has one entry per requirement of `m` -/
theorem BInv.rev_length_of_drained {provs : List PSpec} {st : BfsSt} (h : BInv provs st none) (hq : st.queue = [])
    {m : Nat} (hm : m < st.nodes.length) : (st.rev.getD m []).length = slotsOfNode provs (st.nodes.getD m default) := by
  have hv : m ∈ st.visited := (h.seen m hm).resolve_left fun h1 => by rw [hq] at h1; cases h1
  rw [h.revLen m hm, expectedRev, if_pos hv]

end KV
