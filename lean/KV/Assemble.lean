import KV.Pass2
import KV.Emit
import KV.StmtsProof
/-! From the planner's output to the emitted micro-op program.  `nodeInfo` and `emitPlan` say what the generator
    (generator.go) emits for the output of `Build` and `buildStmts`; `PlanOK` collects what the stages of the planner
    establish.  Read off it: the threads are pools, the argument entries of the nodes are the edges of the graph, and
    hence the hypotheses of the Tier 1 theorems (`T1.PlanFacts`). -/
namespace KV

/-- node block information read off the build output -/
def nodeInfo (b : BuildOut) (n : Nat) : T1.NodeInfo :=
  { id := n,
    args := (b.nodeArgs.getD n []).map (fun a => (a.param, a.isWait && (b.params.getD a.param default).withChan)),
    rets := (b.nodeRets.getD n []).map (fun r => (r, (b.params.getD r default).withChan)) }

theorem nodeInfo_args_fst (b : BuildOut) (n : Nat) :
    (nodeInfo b n).args.map (·.1) = (b.nodeArgs.getD n []).map (·.param) := by
  simp only [nodeInfo, List.map_map]
  rfl

theorem nodeInfo_rets_fst (b : BuildOut) (n : Nat) : (nodeInfo b n).rets.map (·.1) = b.nodeRets.getD n [] := by
  simp only [nodeInfo, List.map_map]
  exact List.map_id'' (fun _ => rfl) _

theorem mem_nodeInfo_args {b : BuildOut} {n c : Nat} :
    (c, true) ∈ (nodeInfo b n).args ↔
      (b.params.getD c default).withChan = true ∧ ∃ a ∈ b.nodeArgs.getD n [], a.param = c ∧ a.isWait = true := by
  simp only [nodeInfo, List.mem_map, Prod.mk.injEq, Bool.and_eq_true]
  constructor
  · rintro ⟨a, ha, rfl, hw, hc⟩; exact ⟨hc, a, ha, rfl, hw⟩
  · rintro ⟨hc, a, ha, rfl, hw⟩; exact ⟨a, ha, rfl, hw, hc⟩

theorem mem_nodeInfo_rets {b : BuildOut} {n c : Nat} :
    (c, true) ∈ (nodeInfo b n).rets ↔ (b.params.getD c default).withChan = true ∧ c ∈ b.nodeRets.getD n [] := by
  simp only [nodeInfo, List.mem_map, Prod.mk.injEq]
  constructor
  · rintro ⟨r, hr, rfl, hc⟩; exact ⟨hc, hr⟩
  · rintro ⟨hc, hr⟩; exact ⟨c, hr, rfl, hc⟩

def emitPlan (b : BuildOut) (parent : List Nat) (chains : List (List Nat)) : T1.Prog :=
  T1.emit (parent.map (nodeInfo b)) (chains.map (·.map (nodeInfo b))) b.retParam

def posOf (order : List Nat) (n : Nat) : Nat := order.idxOf n

/-- what the assembly needs of a graph beyond `GWF`; `newGraph2_gwf` (`KV/DataFlow.lean`) derives it for every graph
    `newGraph2` returns -/
structure GWF2 (g : Graph) : Prop extends GWF g where
  edgeUnique : ∀ n n' e e', e ∈ g.edges.getD n [] → e' ∈ g.edges.getD n' [] →
    e.dst = e'.dst → e.slot = e'.slot → n = n' ∧ e = e'
  srcLt : ∀ n e, e ∈ g.edges.getD n [] → n < g.nodes.length →
    e.src < (if isArgNode g n then 1 else (g.provs.getD (g.nodes.getD n default).prov default).provides.length)
  revEdge : ∀ m i d, (g.rev.getD m [])[i]? = some d → hasEdge g d m i

/-- in a sound order, the producer of an edge stands before the consumer: the order has a producer for the slot
    the edge fills, and a slot has one edge -/
theorem producer_before {g : Graph} {l : List Nat} (hg : GWF2 g) (hs : SoundL g l) {n : Nat} {e : Edge}
    (he : e ∈ g.edges.getD n []) {pre post : List Nat} (hsplit : l = pre ++ e.dst :: post) : n ∈ pre := by
  obtain ⟨n', hn'pre, e', he', hed', hes'⟩ := hs pre e.dst post hsplit e.slot (hg.slotLt n e he)
  rw [(hg.edgeUnique n n' e e' he he' hed'.symm hes'.symm).1]
  exact hn'pre

/-- what the assembly needs about one successful run of the stages (`stages_planOK`, `KV/Final.lean`) -/
structure PlanOK (g : Graph) (b : BuildOut) (parent : List Nat) (chains : List (List Nat)) : Prop where
  gwf : GWF2 g
  order_sound : SoundL g (topoOrder g)
  order_nodup : (topoOrder g).Nodup
  order_lt : ∀ m ∈ topoOrder g, m < g.nodes.length
  retIn : g.retNode ∈ topoOrder g
  out : b = buildOut g
  kPos : 0 < maxAntichain g
  p1 : P1Inv g (maxAntichain g) (topoOrder g) (st1Of g)
  p2 : P2Inv g (st1Of g) (params0Of g) (edgePairs g (topoOrder g)) (st2Of g)
  stmts : StmtFacts g b.pools parent chains

namespace PlanOK
variable {g : Graph} {b : BuildOut} {parent : List Nat} {chains : List (List Nat)} (hp : PlanOK g b parent chains)
include hp

theorem params : b.params = (st2Of g).params := congrArg BuildOut.params hp.out
theorem nodeArgs : b.nodeArgs = (st2Of g).nodeArgs := congrArg BuildOut.nodeArgs hp.out
theorem nodeRets : b.nodeRets = (st1Of g).nodeRets := congrArg BuildOut.nodeRets hp.out
theorem pools : b.pools = (st1Of g).pools := congrArg BuildOut.pools hp.out
theorem args : b.args = (st1Of g).args := congrArg BuildOut.args hp.out
theorem retParam : b.retParam = retParamOf g (st1Of g) := congrArg BuildOut.retParam hp.out

end PlanOK

theorem threadNodes_map (f : Nat → T1.NodeInfo) (parent : List Nat) (chains : List (List Nat)) (t : Nat) :
    T1.threadNodes (parent.map f) (chains.map (·.map f)) t = ((parent :: chains).getD t []).map f := by
  cases t with
  | zero => rfl
  | succ g => exact List.getD_map (l := chains) (i := g) (d := []) (List.map f)

theorem mem_threadNodes {b : BuildOut} {parent : List Nat} {chains : List (List Nat)} {t : Nat} {nd : T1.NodeInfo} :
    nd ∈ T1.threadNodes (parent.map (nodeInfo b)) (chains.map (·.map (nodeInfo b))) t ↔
      ∃ n ∈ (parent :: chains).getD t [], nodeInfo b n = nd := by
  rw [threadNodes_map, List.mem_map]

theorem exists_threadNode {b : BuildOut} {parent : List Nat} {chains : List (List Nat)} {t n : Nat}
    {P : T1.NodeInfo → Prop} :
    (∃ nd ∈ T1.threadNodes (parent.map (nodeInfo b)) (chains.map (·.map (nodeInfo b))) t, nd.id = n ∧ P nd) ↔
      n ∈ (parent :: chains).getD t [] ∧ P (nodeInfo b n) := by
  constructor
  · rintro ⟨_, hnd, rfl, hP⟩
    obtain ⟨m, hm, rfl⟩ := mem_threadNodes.mp hnd
    exact ⟨hm, hP⟩
  · exact fun ⟨hn, hP⟩ => ⟨_, mem_threadNodes.mpr ⟨n, hn, rfl⟩, rfl, hP⟩

theorem mem_threads {parent : List Nat} {chains : List (List Nat)} {n : Nat} :
    (∃ t, n ∈ (parent :: chains).getD t []) ↔ n ∈ parent ∨ ∃ c ∈ chains, n ∈ c := by
  simp only [List.exists_mem_getD, List.mem_cons, exists_eq_or_imp]

namespace PlanOK
variable {g : Graph} {b : BuildOut} {parent : List Nat} {chains : List (List Nat)} (hp : PlanOK g b parent chains)
include hp

theorem thread_eq_pool (t : Nat) : ∃ q, (parent :: chains).getD t [] = b.pools.getD q [] :=
  let ⟨f, hf, _⟩ := hp.stmts.thread_pool
  ⟨f t, hf t⟩

theorem thread_sublist (t : Nat) : ((parent :: chains).getD t []).Sublist (topoOrder g) := by
  obtain ⟨q, hq⟩ := hp.thread_eq_pool t
  rw [hq, hp.pools]
  exact hp.p1.sub q

theorem thread_node {t n : Nat} (hn : n ∈ (parent :: chains).getD t []) :
    n ∈ topoOrder g ∧ isArgNode g n = false := by
  obtain ⟨q, hq⟩ := hp.thread_eq_pool t
  rw [hq, hp.pools] at hn
  exact ⟨(hp.p1.sub q).subset hn, hp.p1.not_arg_of_mem_pool hn⟩

theorem provider_thread {n : Nat} (hn : n ∈ topoOrder g) (hna : isArgNode g n = false) :
    ∃ t, n ∈ (parent :: chains).getD t [] := by
  obtain ⟨q, _, hnq⟩ := hp.p1.placed n hn hna hp.kPos
  exact mem_threads.mpr (hp.stmts.cover q n (by rw [hp.pools]; exact hnq))

/-- the pool entry of a node names the thread that runs it -/
theorem thread_of_node : ∃ f : Nat → Nat,
    (∀ {t n}, n ∈ (parent :: chains).getD t [] → (st1Of g).nodePool.getD n none = some (f t)) ∧
    ∀ {t t' n m}, n ∈ (parent :: chains).getD t [] → m ∈ (parent :: chains).getD t' [] → (f t = f t' ↔ t = t') := by
  obtain ⟨f, hf, hinj⟩ := hp.stmts.thread_pool
  exact ⟨f, fun {t n} hn => hp.p1.poolOf (f t) n (by rw [← hp.pools, ← hf t]; exact hn),
    fun hn hm => ⟨hinj _ _ (List.ne_nil_of_mem hn) (List.ne_nil_of_mem hm), congrArg f⟩⟩

theorem thread_unique {t t' n : Nat} (hn : n ∈ (parent :: chains).getD t [])
    (hn' : n ∈ (parent :: chains).getD t' []) : t = t' :=
  let ⟨_, hf, hinj⟩ := hp.thread_of_node
  (hinj hn hn').mp (Option.some.inj ((hf hn).symm.trans (hf hn')))

theorem wait_iff_threads {t t' n m : Nat} (hn : n ∈ (parent :: chains).getD t [])
    (hm : m ∈ (parent :: chains).getD t' []) : shouldWaitB (st1Of g) n m = true ↔ t ≠ t' := by
  obtain ⟨f, hf, hinj⟩ := hp.thread_of_node
  rw [shouldWaitB, hf hn, hf hm, Bool.not_eq_true', beq_eq_false_iff_ne]
  exact not_congr (hinj hn hm)

theorem params_fields (v : Nat) :
    b.params.length = (st1Of g).params.length ∧
    (b.params.getD v default).node = ((st1Of g).params.getD v default).node ∧
    (b.params.getD v default).isArg = ((st1Of g).params.getD v default).isArg := by
  have hf := params0Of_fields g v
  rw [hp.params]
  exact ⟨hp.p2.plen.trans (params0Of_length g), (hp.p2.pnode v).trans hf.2.1, (hp.p2.pisArg v).trans hf.1⟩

theorem rets_param {n v : Nat} (hv : v ∈ b.nodeRets.getD n []) :
    v < b.params.length ∧ (b.params.getD v default).node = n ∧
    (b.params.getD v default).isArg = isArgNode g n := by
  obtain ⟨hl, hn, ha⟩ := hp.params_fields v
  rw [hp.nodeRets] at hv
  exact ⟨hl ▸ hp.p1.retsLt n v hv, hn.trans (hp.p1.retsOwner n v hv), ha.trans (hp.p1.retsArg n v hv)⟩

theorem rets_length {n : Nat} (hn : n ∈ topoOrder g) : (b.nodeRets.getD n []).length = outCount g n := by
  rw [hp.nodeRets]; exact hp.p1.retsLen n hn

theorem nodeArgs_length {m : Nat} (hm : m < g.nodes.length) :
    (b.nodeArgs.getD m []).length = (g.rev.getD m []).length := by
  rw [hp.nodeArgs, hp.p2.slotLen m hm, hp.gwf.slotsEq m hm]

theorem argNoChan (v : Nat) (hv : (b.params.getD v default).isArg = true) :
    (b.params.getD v default).withChan = false := by
  rw [hp.params] at hv ⊢
  exact hp.p2.argNoChan (fun w => (params0Of_fields g w).2.2.trans (hp.p1.noChan w)) v hv

theorem chan_not_arg {v : Nat} (hv : (b.params.getD v default).withChan = true) :
    (b.params.getD v default).isArg = false :=
  Bool.eq_false_iff.mpr fun hia => Bool.false_ne_true ((hp.argNoChan v hia).symm.trans hv)

theorem edge_slot {n : Nat} {e : Edge} (hn : n ∈ topoOrder g) (he : e ∈ g.edges.getD n []) :
    ∃ v, (b.nodeRets.getD n [])[e.src]? = some v ∧
      (b.nodeArgs.getD e.dst [])[e.slot]? = some { param := v, isWait := shouldWaitB (st1Of g) n e.dst } := by
  have hml : e.dst < g.nodes.length := hp.gwf.dstLt n e he
  have hslot : e.slot < (b.nodeArgs.getD e.dst []).length := by
    rw [hp.nodeArgs_length hml]; exact hp.gwf.slotLt n e he
  have hsrc : e.src < (b.nodeRets.getD n []).length := by
    rw [hp.rets_length hn]; exact hp.gwf.srcLt n e he (hp.order_lt n hn)
  refine ⟨_, List.getElem?_eq_some_getD 0 hsrc, ?_⟩
  rw [List.getElem?_eq_some_getD dfltArg hslot]
  -- the last edge written to this slot is `e` itself: no other edge feeds the same slot
  obtain ⟨⟨n', e'⟩, hy, hyd, hys, hval⟩ := hp.p2.written (n, e) (mem_edgePairs.mpr ⟨hn, he⟩) hml
    (by rw [← hp.p2.slotLen _ hml, ← hp.nodeArgs]; exact hslot)
  obtain ⟨rfl, rfl⟩ := hp.gwf.edgeUnique n n' e e' he (mem_edgePairs.mp hy).2 hyd.symm hys.symm
  rw [hp.nodeArgs, hp.nodeRets]
  exact congrArg some hval

theorem edge_chan {n v : Nat} {e : Edge} (hn : n ∈ topoOrder g) (he : e ∈ g.edges.getD n [])
    (hna : isArgNode g n = false) (hsw : shouldWaitB (st1Of g) n e.dst = true)
    (hv : (b.nodeRets.getD n [])[e.src]? = some v) : (b.params.getD v default).withChan = true := by
  rw [hp.nodeRets] at hv
  have hva : (argVal (st1Of g) n e).param = v :=
    (List.getD_of_getElem? 0 hv : ((st1Of g).nodeRets.getD n []).getD e.src 0 = v)
  have hvm := List.mem_of_getElem? hv
  rw [hp.params, ← hva]
  refine hp.p2.chan (n, e) (mem_edgePairs.mpr ⟨hn, he⟩) hsw ?_ ?_
  · rw [hva, params0Of_length]; exact hp.p1.retsLt n v hvm
  · rw [hva, (params0Of_fields g v).1, hp.p1.retsArg n v hvm]; exact hna

theorem slot_source {m i : Nat} {a : CallArg} (hm : m ∈ topoOrder g) (ha : (b.nodeArgs.getD m [])[i]? = some a) :
    ∃ n e, n ∈ topoOrder g ∧ posOf (topoOrder g) n < posOf (topoOrder g) m ∧
      e ∈ g.edges.getD n [] ∧ e.dst = m ∧ e.slot = i ∧
      (b.nodeRets.getD n [])[e.src]? = some a.param ∧ a.isWait = shouldWaitB (st1Of g) n m := by
  have hi := List.lt_length_of_getElem? ha
  rw [hp.nodeArgs_length (hp.order_lt m hm)] at hi
  obtain ⟨pre, post, hsplit⟩ := List.append_of_mem hm
  obtain ⟨n, hnpre, e, he, rfl, rfl⟩ := hp.order_sound pre m post hsplit i hi
  have hno : n ∈ topoOrder g := by rw [hsplit]; exact List.mem_append_left _ hnpre
  obtain ⟨v, hv, hs⟩ := hp.edge_slot hno he
  cases ha.symm.trans hs
  exact ⟨n, e, hno, List.idxOf_lt_of_mem_pre hp.order_nodup hsplit hnpre, he, rfl, rfl, hv, rfl⟩

theorem arg_producer {t m : Nat} {a : CallArg} (hm : m ∈ (parent :: chains).getD t [])
    (ha : a ∈ b.nodeArgs.getD m []) (hna : (b.params.getD a.param default).isArg = false) :
    ∃ t' n, n ∈ (parent :: chains).getD t' [] ∧ posOf (topoOrder g) n < posOf (topoOrder g) m ∧
      a.param ∈ b.nodeRets.getD n [] ∧ (a.isWait = true ↔ t' ≠ t) ∧
      (t' ≠ t → (b.params.getD a.param default).withChan = true) := by
  obtain ⟨i, hi⟩ := List.mem_iff_getElem?.mp ha
  obtain ⟨n, e, hno, hpos, he, rfl, _, hsrc, hwait⟩ := hp.slot_source (hp.thread_node hm).1 hi
  -- the producer is a provider node, placed in a pool, which some thread runs
  have hnArg : isArgNode g n = false := (hp.rets_param (List.mem_of_getElem? hsrc)).2.2.symm.trans hna
  obtain ⟨t', ht'⟩ := hp.provider_thread hno hnArg
  have hiff := hp.wait_iff_threads ht' hm
  exact ⟨t', n, ht', hpos, List.mem_of_getElem? hsrc, hwait ▸ hiff,
    fun hne => hp.edge_chan hno he hnArg (hiff.mpr hne) hsrc⟩

end PlanOK

theorem planFacts_of_planOK {g : Graph} {b : BuildOut} {parent : List Nat} {chains : List (List Nat)}
    (hp : PlanOK g b parent chains) :
    T1.PlanFacts (parent.map (nodeInfo b)) (chains.map (·.map (nodeInfo b)))
      (posOf (topoOrder g)) (topoOrder g).length := by
  refine { posLt := ?posLt, sorted := ?sorted, waitCloser := ?waitCloser }
  case posLt =>
    intro t nd hnd
    obtain ⟨n, hn, rfl⟩ := mem_threadNodes.mp hnd
    exact List.idxOf_lt_length_of_mem (hp.thread_node hn).1
  case sorted =>
    intro t
    rw [threadNodes_map, List.pairwise_map]
    exact (hp.thread_sublist t).pairwise_idxOf_lt hp.order_nodup
  case waitCloser =>
    intro t nd hnd v hv
    obtain ⟨m, hm, rfl⟩ := mem_threadNodes.mp hnd
    obtain ⟨hwc, a, ha, rfl, _⟩ := mem_nodeInfo_args.mp hv
    -- the variable has a channel, so it is no parameter
    obtain ⟨t', n, ht', hpos, hsrc, _⟩ := hp.arg_producer hm ha (hp.chan_not_arg hwc)
    exact ⟨t', nodeInfo b n, mem_threadNodes.mpr ⟨n, ht', rfl⟩, mem_nodeInfo_rets.mpr ⟨hwc, hsrc⟩, hpos⟩

end KV
