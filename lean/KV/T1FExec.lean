import KV.T1F
import Std.Data.HashSet
/-! The `T1F` interleaving semantics made executable, for the driver: `stepList P fails s` lists the successors of
`s` (`step_iff`: exactly the `Step` successors); `outcomes P fails allowCancel fuel` searches exhaustively from
`init P` and returns the outcomes of the terminal states (`outcomes_sound`: each is the outcome of a reachable
terminal state). -/
namespace T1F

deriving instance DecidableEq for St
deriving instance Hashable for Err
deriving instance Hashable for Fin
deriving instance Hashable for St

/-! ### Boolean side conditions -/

def isCloseOf (c : Nat) : Op → Bool
  | .close _ c' => c' == c
  | _ => false

def isSpawnOf (g : Nat) : Op → Bool
  | .spawn g' => g' == g
  | _ => false

def closedB (P : Prog) (s : St) (c : Nat) : Bool :=
  (List.range P.threads.length).any fun t => ((thread P t).take (pc s t)).any (isCloseOf c)

def spawnedB (P : Prog) (s : St) (g : Nat) : Bool :=
  g == 0 || ((thread P 0).take (pc s 0)).any (isSpawnOf g)

def runningB (s : St) (t : Nat) : Bool := (finOf s t).isNone

theorem isCloseOf_iff {c : Nat} {op : Op} : isCloseOf c op = true ↔ ∃ o, op = .close o c := by
  cases op <;> simp [isCloseOf]

theorem isSpawnOf_iff {g : Nat} {op : Op} : isSpawnOf g op = true ↔ op = .spawn g := by
  cases op <;> simp [isSpawnOf]

theorem closedB_iff (P : Prog) (s : St) (c : Nat) : closedB P s c = true ↔ closed P s c := by
  unfold closedB closed
  rw [List.any_eq_true]
  constructor
  · rintro ⟨t, _, h⟩
    obtain ⟨j, op, hj, hlt, hp⟩ := (List.any_take_eq_true _ _ _).mp h
    obtain ⟨o, rfl⟩ := isCloseOf_iff.mp hp
    exact ⟨t, j, o, hj, hlt⟩
  · rintro ⟨t, j, o, hj, hlt⟩
    refine ⟨t, List.mem_range.mpr (lt_of_opAt hj), ?_⟩
    exact (List.any_take_eq_true _ _ _).mpr ⟨j, _, hj, hlt, isCloseOf_iff.mpr ⟨o, rfl⟩⟩

theorem spawnedB_iff (P : Prog) (s : St) (g : Nat) : spawnedB P s g = true ↔ spawned P s g := by
  unfold spawnedB spawned
  rw [Bool.or_eq_true, beq_iff_eq]
  apply or_congr Iff.rfl
  constructor
  · intro h
    obtain ⟨j, op, hj, hlt, hp⟩ := (List.any_take_eq_true _ _ _).mp h
    rw [isSpawnOf_iff.mp hp] at hj
    exact ⟨j, hj, hlt⟩
  · rintro ⟨j, hj, hlt⟩
    exact (List.any_take_eq_true _ _ _).mpr ⟨j, _, hj, hlt, isSpawnOf_iff.mpr rfl⟩

theorem runningB_iff (s : St) (t : Nat) : runningB s t = true ↔ running s t := by
  unfold runningB running
  exact Option.isNone_iff_eq_none

/-! ### successors -/

/-- every goroutine has finished (side condition of `egwait`) -/
def allGoDone (P : Prog) (s : St) : Bool :=
  (List.range P.threads.length).all fun g => g == 0 || (finOf s g).isSome

theorem allGoDone_iff (P : Prog) (s : St) :
    allGoDone P s = true ↔ ∀ g, 0 < g → g < P.threads.length → finOf s g ≠ none := by
  simp only [allGoDone, List.all_eq_true, List.mem_range, Bool.or_eq_true, beq_iff_eq, Option.isSome_iff_ne_none]
  constructor
  · exact fun h g h0 hl => (h g hl).resolve_left (Nat.ne_of_gt h0)
  · exact fun h g hl => (Nat.eq_zero_or_pos g).imp id fun h0 => h g h0 hl

def egwaitSucc (s : St) : St := { (advance s 0) with egCanc := true }
def retSucc (P : Prog) (s : St) : St :=
  { (finish s 0 .ok) with result := some (if P.retErr then s.egErr else none) }
def cancelSucc (s : St) : St := { s with callerCanc := true }

/-- successors through thread `t` whose next operation is `op` (`none`: past the end) -/
def opSteps (P : Prog) (fails : List Nat) (s : St) (t : Nat) : Option Op → List St
  | some (.wait _ c k) =>
      (if closedB P s c then [advance s t] else []) ++
      (if k && ctxDone s then [finish s t (.err .ctx)] else [])
  | some (.enter _ _) => [advance s t]
  | some (.exit o _ f) => if f && fails.contains o then [finish s t (.err (.prov o))] else [advance s t]
  | some (.close _ _) => [advance s t]
  | some (.spawn _) => if t = 0 then [advance s t] else []
  | some .egwait => if t = 0 ∧ allGoDone P s = true then [egwaitSucc s] else []
  | some (.ret _) => if t = 0 then [retSucc P s] else []
  | none => if 0 < t then [finish s t .ok] else []

def threadSteps (P : Prog) (fails : List Nat) (s : St) (t : Nat) : List St :=
  if runningB s t && spawnedB P s t then opSteps P fails s t (opAt P t (pc s t)) else []

/-- the successors that are not the `cancel` step -/
def progSteps (P : Prog) (fails : List Nat) (s : St) : List St :=
  (List.range P.threads.length).flatMap (threadSteps P fails s)

/-- all successors: one candidate per thread and applicable constructor, plus the `cancel` successor -/
def stepList (P : Prog) (fails : List Nat) (s : St) : List St :=
  progSteps P fails s ++ [cancelSucc s]

def envOf (fails : List Nat) : Env := ⟨fun o => fails.contains o⟩

theorem mem_opSteps {P : Prog} {fails : List Nat} {s s' : St} {t : Nat} {op : Option Op} :
    s' ∈ opSteps P fails s t op ↔
      match op with
      | some (.wait _ c k) =>
          (closed P s c ∧ s' = advance s t) ∨ (k = true ∧ ctxDone s = true ∧ s' = finish s t (.err .ctx))
      | some (.exit o _ f) =>
          ((f && (envOf fails).fails o) = false ∧ s' = advance s t) ∨
          (f = true ∧ (envOf fails).fails o = true ∧ s' = finish s t (.err (.prov o)))
      | some (.spawn _) => t = 0 ∧ s' = advance s t
      | some .egwait => t = 0 ∧ (∀ g, 0 < g → g < P.threads.length → finOf s g ≠ none) ∧ s' = egwaitSucc s
      | some (.ret _) => t = 0 ∧ s' = retSucc P s
      | none => 0 < t ∧ s' = finish s t .ok
      | some (.enter _ _) | some (.close _ _) => s' = advance s t := by
  rcases op with _ | op
  · simp only [opSteps, List.mem_ite_nil_right, List.mem_singleton]
  · cases op with
    | wait o c k =>
      simp only [opSteps, List.mem_append, List.mem_ite_nil_right, List.mem_singleton, closedB_iff, Bool.and_eq_true,
        and_assoc]
    | exit o rets f => simp only [opSteps, envOf]; cases f <;> cases fails.contains o <;> simp
    | egwait => simp only [opSteps, List.mem_ite_nil_right, List.mem_singleton, allGoDone_iff, and_assoc]
    | spawn g | ret v => simp only [opSteps, List.mem_ite_nil_right, List.mem_singleton]
    | enter o a | close o c => simp only [opSteps, List.mem_singleton]

theorem mem_threadSteps {P : Prog} {fails : List Nat} {s s' : St} {t : Nat} :
    s' ∈ threadSteps P fails s t ↔
      running s t ∧ spawned P s t ∧ s' ∈ opSteps P fails s t (opAt P t (pc s t)) := by
  rw [threadSteps, List.mem_ite_nil_right, Bool.and_eq_true, runningB_iff, spawnedB_iff, and_assoc]

theorem mem_progSteps {P : Prog} {fails : List Nat} {s s' : St} :
    s' ∈ progSteps P fails s ↔
      ∃ t, t < P.threads.length ∧ running s t ∧ spawned P s t ∧
        s' ∈ opSteps P fails s t (opAt P t (pc s t)) := by
  simp only [progSteps, List.mem_flatMap, List.mem_range, mem_threadSteps]

theorem step_of_mem_progSteps {P : Prog} {fails : List Nat} {s s' : St} (h : s' ∈ progSteps P fails s) :
    Step P (envOf fails) s s' ∧ s'.callerCanc = s.callerCanc := by
  obtain ⟨t, ht, hr, hs, h⟩ := mem_progSteps.mp h
  -- every candidate is `advance`, `finish`, or one of these with `egCanc` / `result` overwritten
  have hfin := finish_callerCanc s
  rw [mem_opSteps] at h
  cases hop : opAt P t (pc s t) with
  | none => rw [hop] at h; obtain ⟨h0, rfl⟩ := h; exact ⟨.goEnd h0 ht hr hs hop, hfin _ _⟩
  | some op =>
    rw [hop] at h
    cases op with
    | wait =>
      rcases h with ⟨hc, rfl⟩ | ⟨rfl, hc, rfl⟩
      · exact ⟨.waitOk ht hr hs hop hc, rfl⟩
      · exact ⟨.waitCtx ht hr hs hop hc, hfin _ _⟩
    | exit =>
      rcases h with ⟨hf, rfl⟩ | ⟨rfl, hf, rfl⟩
      · exact ⟨.exitOk ht hr hs hop hf, rfl⟩
      · exact ⟨.exitFail ht hr hs hop hf, hfin _ _⟩
    | spawn => obtain ⟨rfl, rfl⟩ := h; exact ⟨.spawn hr hop, rfl⟩
    | egwait => obtain ⟨rfl, hall, rfl⟩ := h; exact ⟨.egwait hr hop hall, rfl⟩
    | ret => obtain ⟨rfl, rfl⟩ := h; exact ⟨.ret hr hop, hfin 0 .ok⟩
    | enter => subst h; exact ⟨.enter ht hr hs hop, rfl⟩
    | close => subst h; exact ⟨.close ht hr hs hop, rfl⟩

theorem mem_stepList {P : Prog} {fails : List Nat} {s s' : St} :
    s' ∈ stepList P fails s ↔ s' ∈ progSteps P fails s ∨ s' = cancelSucc s := by
  unfold stepList
  rw [List.mem_append, List.mem_singleton]

theorem step_of_mem {P : Prog} {fails : List Nat} {s s' : St} (h : s' ∈ stepList P fails s) :
    Step P (envOf fails) s s' := by
  rcases mem_stepList.mp h with h | rfl
  · exact (step_of_mem_progSteps h).1
  · exact Step.cancel

theorem mem_of_step {P : Prog} {fails : List Nat} {s s' : St} (h : Step P (envOf fails) s s') :
    s' ∈ stepList P fails s := by
  rw [mem_stepList]
  -- the common premises of a rule put its thread in `progSteps`; its own premise is the line of `mem_opSteps`
  have key : ∀ t, t < P.threads.length → running s t → spawned P s t →
      s' ∈ opSteps P fails s t (opAt P t (pc s t)) → s' ∈ progSteps P fails s ∨ s' = cancelSucc s :=
    fun t ht hr hs hm => Or.inl (mem_progSteps.mpr ⟨t, ht, hr, hs, hm⟩)
  cases h with
  | waitOk ht hr hs hop hc => exact key _ ht hr hs (by rw [hop, mem_opSteps]; exact Or.inl ⟨hc, rfl⟩)
  | waitCtx ht hr hs hop hc => exact key _ ht hr hs (by rw [hop, mem_opSteps]; exact Or.inr ⟨rfl, hc, rfl⟩)
  | enter ht hr hs hop => exact key _ ht hr hs (by rw [hop, mem_opSteps])
  | exitOk ht hr hs hop hf => exact key _ ht hr hs (by rw [hop, mem_opSteps]; exact Or.inl ⟨hf, rfl⟩)
  | exitFail ht hr hs hop hf => exact key _ ht hr hs (by rw [hop, mem_opSteps]; exact Or.inr ⟨rfl, hf, rfl⟩)
  | close ht hr hs hop => exact key _ ht hr hs (by rw [hop, mem_opSteps])
  | spawn hr hop => exact key 0 (lt_of_opAt hop) hr (Or.inl rfl) (by rw [hop, mem_opSteps]; exact ⟨rfl, rfl⟩)
  | egwait hr hop hall => exact key 0 (lt_of_opAt hop) hr (Or.inl rfl) (by rw [hop, mem_opSteps]; exact ⟨rfl, hall, rfl⟩)
  | ret hr hop => exact key 0 (lt_of_opAt hop) hr (Or.inl rfl) (by rw [hop, mem_opSteps]; exact ⟨rfl, rfl⟩)
  | goEnd h0 ht hr hs hop => exact key _ ht hr hs (by rw [hop, mem_opSteps]; exact ⟨h0, rfl⟩)
  | cancel => exact Or.inr rfl

/-- **the executable successor function is the step relation** -/
theorem step_iff (P : Prog) (fails : List Nat) (s s' : St) :
    Step P ⟨fun o => fails.contains o⟩ s s' ↔ s' ∈ stepList P fails s :=
  ⟨mem_of_step, step_of_mem⟩

/-! ### outcomes -/

/-- what an observer sees of a terminal state: main's result (`none` = main never returns) and the threads
    that have not finished -/
structure Outcome where
  result : Option (Option Err)
  blocked : List Nat
deriving DecidableEq, Repr

def outcomeOf (P : Prog) (s : St) : Outcome :=
  { result := s.result, blocked := (List.range P.threads.length).filter (fun t => runningB s t) }

/-- no successor other than the `cancel` successor changes anything -/
def terminal (P : Prog) (fails : List Nat) (s : St) : Bool :=
  (progSteps P fails s).all (fun s' => s' == s)

/-- meaning of `terminal`, through completeness of `stepList` -/
theorem terminal_spec {P : Prog} {fails : List Nat} {s : St} (h : terminal P fails s = true) {s' : St}
    (hs : Step P (envOf fails) s s') : s' = s ∨ s' = cancelSucc s :=
  (mem_stepList.mp (mem_of_step hs)).imp_left fun hm => of_decide_eq_true (List.all_eq_true.mp h s' hm)

/-- conversely, once the caller has cancelled: a state whose only `Step` successors are itself and its `cancel`
    successor is terminal -/
theorem terminal_of_spec {P : Prog} {fails : List Nat} {s : St}
    (h : ∀ s', Step P (envOf fails) s s' → s' = s ∨ s' = cancelSucc s) (hc : s.callerCanc = true) :
    terminal P fails s = true := by
  unfold terminal
  rw [List.all_eq_true]
  intro s' hm
  have hcs : cancelSucc s = s := by
    cases s
    simp only [cancelSucc] at hc ⊢
    rw [hc]
  exact decide_eq_true ((h s' (step_of_mem_progSteps hm).1).elim id (·.trans hcs))

/-- the successors the search follows: the `cancel` successor only when cancellation is allowed and not yet issued -/
def nexts (P : Prog) (fails : List Nat) (allowCancel : Bool) (s : St) : List St :=
  progSteps P fails s ++ (if allowCancel && !s.callerCanc then [cancelSucc s] else [])

/-- a state whose outcome is reported: terminal, and the cancellation (when allowed) has been issued -/
def isFinal (P : Prog) (fails : List Nat) (allowCancel : Bool) (s : St) : Bool :=
  terminal P fails s && (!allowCancel || s.callerCanc)

def addOutcome (o : Outcome) (acc : List Outcome) : List Outcome := if acc.contains o then acc else o :: acc

/-- worklist search; `vis` contains every state that has ever been put on the worklist.
    Returns the outcomes, "fuel exhausted", and the fuel left (fuel used = number of states expanded). -/
def search (P : Prog) (fails : List Nat) (allowCancel : Bool) :
    Nat → List St → Std.HashSet St → List Outcome → List Outcome × Bool × Nat
  | fuel, [], _, acc => (acc, false, fuel)
  | 0, _ :: _, _, acc => (acc, true, 0)
  | fuel + 1, s :: work, vis, acc =>
    let acc := if isFinal P fails allowCancel s then addOutcome (outcomeOf P s) acc else acc
    let new := (nexts P fails allowCancel s).filter (fun s' => !vis.contains s')
    search P fails allowCancel fuel (new ++ work) (vis.insertMany new) acc

def searchFrom (P : Prog) (fails : List Nat) (allowCancel : Bool) (fuel : Nat) : List Outcome × Bool × Nat :=
  search P fails allowCancel fuel [init P] (Std.HashSet.emptyWithCapacity.insert (init P)) []

/-- outcomes of all terminal states reachable from `init P` (de-duplicated), and "fuel exhausted" -/
def outcomes (P : Prog) (fails : List Nat) (allowCancel : Bool) (fuel : Nat) : List Outcome × Bool :=
  let r := searchFrom P fails allowCancel fuel
  (r.1, r.2.1)

/-- the same with the number of states expanded -/
def outcomesN (P : Prog) (fails : List Nat) (allowCancel : Bool) (fuel : Nat) : List Outcome × Bool × Nat :=
  let r := searchFrom P fails allowCancel fuel
  (r.1, r.2.1, fuel - r.2.2)

/-- what holds of every state the search visits: it is reachable, and without `allowCancel` the caller has not
    cancelled -/
def ReachS (P : Prog) (fails : List Nat) (allowCancel : Bool) (s : St) : Prop :=
  Reach P (envOf fails) s ∧ (allowCancel = false → s.callerCanc = false)

theorem callerCanc_advance (s : St) (t : Nat) : (advance s t).callerCanc = s.callerCanc := rfl

theorem mem_nexts {P : Prog} {fails : List Nat} {allowCancel : Bool} {s s' : St} :
    s' ∈ nexts P fails allowCancel s ↔
      s' ∈ progSteps P fails s ∨ (allowCancel = true ∧ s.callerCanc = false ∧ s' = cancelSucc s) := by
  rw [nexts, List.mem_append, List.mem_ite_nil_right, List.mem_singleton, Bool.and_eq_true, Bool.not_eq_true',
    and_assoc]

theorem reachS_nexts {P : Prog} {fails : List Nat} {allowCancel : Bool} {s s' : St}
    (hr : ReachS P fails allowCancel s) (h : s' ∈ nexts P fails allowCancel s) : ReachS P fails allowCancel s' := by
  rcases mem_nexts.mp h with h | ⟨ha, _, rfl⟩
  · obtain ⟨hst, hcc⟩ := step_of_mem_progSteps h
    exact ⟨Reach.step hr.1 hst, fun ha => hcc.trans (hr.2 ha)⟩
  · exact ⟨Reach.step hr.1 Step.cancel, fun hf => absurd (ha.symm.trans hf) (by decide)⟩

def IsOutcome (P : Prog) (fails : List Nat) (allowCancel : Bool) (o : Outcome) : Prop :=
  ∃ s, Reach P (envOf fails) s ∧ (allowCancel = false → s.callerCanc = false) ∧
    terminal P fails s = true ∧ (allowCancel = true → s.callerCanc = true) ∧ outcomeOf P s = o

theorem mem_addOutcome {o o' : Outcome} {acc : List Outcome} (h : o' ∈ addOutcome o acc) : o' = o ∨ o' ∈ acc := by
  unfold addOutcome at h
  split at h
  · exact Or.inr h
  · exact List.mem_cons.mp h

theorem search_sound (P : Prog) (fails : List Nat) (allowCancel : Bool) (fuel : Nat)
    (work : List St) (vis : Std.HashSet St) (acc : List Outcome)
    (hwork : ∀ s ∈ work, ReachS P fails allowCancel s) (hacc : ∀ o ∈ acc, IsOutcome P fails allowCancel o) :
    ∀ o ∈ (search P fails allowCancel fuel work vis acc).1, IsOutcome P fails allowCancel o := by
  induction fuel, work, vis, acc using search.induct P fails allowCancel with
  | case1 | case2 => rw [search]; exact hacc
  | case3 fuel s work vis acc acc' new ih =>
    rw [search]
    have hs := hwork s List.mem_cons_self
    refine ih (fun s' hs' => ?_) fun o ho => ?_
    · rcases List.mem_append.mp hs' with h | h
      · exact reachS_nexts hs (List.mem_filter.mp h).1
      · exact hwork s' (List.mem_cons_of_mem _ h)
    · unfold acc' at ho
      split at ho
      · rename_i hfin
        rcases mem_addOutcome ho with rfl | h
        · -- the outcome of the final state `s`
          rw [isFinal, Bool.and_eq_true, Bool.or_eq_true] at hfin
          refine ⟨s, hs.1, hs.2, hfin.1, fun ha => hfin.2.resolve_left fun h1 => ?_, rfl⟩
          rw [ha] at h1; cases h1
        · exact hacc o h
      · exact hacc o ho

/-- **soundness of the enumeration**: every outcome returned is the outcome of a state reachable in `P`
    under the environment of `fails`, which is terminal (its only `Step` successors are itself and its
    `cancel` successor, `terminal_spec`); without cancellation the caller's context was never cancelled,
    with cancellation it has been. -/
theorem outcomes_sound (P : Prog) (fails : List Nat) (allowCancel : Bool) (fuel : Nat) (o : Outcome)
    (h : o ∈ (outcomes P fails allowCancel fuel).1) :
    ∃ s, Reach P ⟨fun o => fails.contains o⟩ s ∧ (allowCancel = false → s.callerCanc = false) ∧
      terminal P fails s = true ∧ (allowCancel = true → s.callerCanc = true) ∧ outcomeOf P s = o := by
  refine search_sound P fails allowCancel fuel [init P] (Std.HashSet.emptyWithCapacity.insert (init P)) [] ?_ ?_ o h
  · intro s hs
    rw [List.mem_singleton] at hs
    subst hs
    exact ⟨Reach.init, fun _ => rfl⟩
  · intro o ho
    cases ho

end T1F
