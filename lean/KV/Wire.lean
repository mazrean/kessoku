/-! # Model for C13: google/wire and `kessoku migrate` on one abstract configuration

A small reference solver for google/wire provider sets (`wireEval`), the `kessoku migrate` transformation
(internal/migrate, `transform_*.go`: `migrateItem`, `migrate`) on the same abstract configuration, kessoku's by-type
evaluation of the migrated declaration (`kEval`), concrete witnesses where the two differ (by kernel evaluation), and
the decidable subset `faithful` of configurations on which they agree (proofs in `KV/WireProofs.lean`). -/
namespace Wire

/-- type keys: `val n` is the named type `Tn`, `ptr n` is `*Tn`, `iface n` an interface `In` -/
inductive Ty where
  | val (n : Nat) | ptr (n : Nat) | iface (n : Nat) | basic (n : Nat)
deriving DecidableEq, Repr

structure Func where
  name : Nat            -- function identity; by convention `ctorName n` is the name `New<Tn>`
  params : List Ty
  result : Ty
deriving DecidableEq, Repr

/-- elements of a wire provider set, already flattened (`Cfg.parts` remembers which element list each was written in) -/
inductive Item where
  | func (f : Func)
  | bind (iface : Nat) (impl : Ty)                 -- wire.Bind(new(In), new(impl))
  | structP (n : Nat) (fields : List Ty)           -- wire.Struct(new(Tn), "*"): provides Tn and *Tn
  | fieldsOf (n : Nat) (ptrForm : Bool) (fields : List Ty)   -- wire.FieldsOf(new(Tn) | new(*Tn), …)
deriving DecidableEq, Repr

structure Cfg where
  items : List Item
  args : List Ty
  ret : Ty
  /-- every function declared in the package (constructor lookup by name sees all of them) -/
  pkgFuncs : List Func
  /-- element-list id of each item, in item order: the items come from several element lists (the arguments of one
      `wire.NewSet(...)` / `wire.Build(...)` each); `parts[i]` names the list the `i`-th item was written in.  Missing
      entries mean list `0`, so `parts := []` puts every item in one list. -/
  parts : List Nat := []
deriving Repr

/-- the element list the item at index `i` was written in -/
def partOf (c : Cfg) (i : Nat) : Nat := c.parts.getD i 0

def ctorName (n : Nat) : Nat := 1000 + n       -- the name `New<Tn>`
def mkName (n : Nat) : Nat := 2000 + n         -- struct literal `Tn{…}`
def mkPtrName (n : Nat) : Nat := 3000 + n      -- `&Tn{…}`
def fieldName : Nat := 4000                    -- field read

/-- Herbrand values -/
inductive V where
  | arg (t : Ty)
  | call (name : Nat) (args : List V)
  | missing (t : Ty)
  | bot

mutual
def V.beq : V → V → Bool
  | .arg a, .arg b => a == b
  | .call n as, .call m bs => n == m && V.beqL as bs
  | .missing a, .missing b => a == b
  | .bot, .bot => true
  | _, _ => false
def V.beqL : List V → List V → Bool
  | [], [] => true
  | a :: as, b :: bs => V.beq a b && V.beqL as bs
  | _, _ => false
end

/-! ### google/wire: resolution by type over the provider set -/

def wireSupplier (items : List Item) (t : Ty) : Option (Nat × List Ty) :=
  items.findSome? fun
    | .func f => if f.result = t then some (f.name, f.params) else none
    | .structP n fs => if t = .val n then some (mkName n, fs)
                       else if t = .ptr n then some (mkPtrName n, fs) else none
    | .fieldsOf n ptrForm fs =>
        if fs.contains t then some (fieldName, [if ptrForm then Ty.ptr n else Ty.val n]) else none
    | .bind _ _ => none

def wireBinding (items : List Item) (t : Ty) : Option Ty :=
  match t with
  | .iface i => items.findSome? fun
      | .bind j impl => if i = j then some impl else none
      | _ => none
  | _ => none

def wireEval (c : Cfg) : Nat → Ty → V
  | 0, _ => .bot
  | fuel + 1, t =>
    if c.args.contains t then .arg t
    else match wireBinding c.items t with
      | some impl => wireEval c fuel impl
      | none =>
        match wireSupplier c.items t with
        | some (name, ps) => .call name (ps.map (wireEval c fuel))
        | none => .missing t

/-! ### kessoku migrate (transform_*.go), on the same abstract configuration -/

inductive KItem where
  | provide (f : Func)                            -- kessoku.Provide(f)
  | bindProvide (ifaces : List Nat) (f : Func)    -- kessoku.Bind[Ik](…kessoku.Bind[I1](kessoku.Provide(f))…), ifaces = [I1, …, Ik]
deriving DecidableEq, Repr

def tyName : Ty → Option Nat
  | .val n => some n | .ptr n => some n | _ => none

/-- implementation types bound by some `wire.Bind` **written in element list `k`** (as `collectBoundTypes`, which
    `transformElements` calls on the direct elements of the one list it is transforming) -/
def boundTypesIn (c : Cfg) (k : Nat) : List Ty :=
  c.items.zipIdx.filterMap fun p => match p.1 with
    | .bind _ impl => if partOf c p.2 = k then some impl else none
    | _ => none

/-- the `wire.Bind`s on implementation `impl` written in element list `k`, as `(interface, item index)`, in item order -/
def bindsOn (c : Cfg) (k : Nat) (impl : Ty) : List (Nat × Nat) :=
  c.items.zipIdx.filterMap fun p => match p.1 with
    | .bind i impl' => if impl' = impl ∧ partOf c p.2 = k then some (i, p.2) else none
    | _ => none

/-- an earlier item of the element list of index `idx` is a `wire.Bind` on the same implementation `impl` -/
def hasEarlierBind (c : Cfg) (idx : Nat) (impl : Ty) : Bool :=
  (bindsOn c (partOf c idx) impl).any fun q => q.2 < idx

/-- the interfaces of the later `wire.Bind`s on `impl` in the element list of index `idx`, in item order -/
def laterIfaces (c : Cfg) (idx : Nat) (impl : Ty) : List Nat :=
  ((bindsOn c (partOf c idx) impl).filter fun q => idx < q.2).map (·.1)

/-- migration of the item at index `idx`.
    * a provider function is dropped when its result type is bound by a `wire.Bind` of **its own element list**;
    * the **first** `wire.Bind` on an implementation in its element list becomes one item
      `Bind[Ik](…Bind[I1](Provide(New<T>))…)` carrying its own interface followed by the interfaces of every later `Bind` on
      the same implementation in the same element list (the Go code wraps the earlier item once per later `Bind`); those
      later `Bind`s emit nothing.  The constructor is looked up by name and the migration refuses when it is missing; a
      later `Bind` on the same implementation would fail the very same lookup (same `impl`, same `pkgFuncs`), so refusing
      at the first `Bind` only is equivalent to refusing at each. -/
def migrateItem (c : Cfg) (idx : Nat) : Item → Option (List KItem)
  | .func f => if (boundTypesIn c (partOf c idx)).contains f.result then some [] else some [.provide f]
  | .bind i impl =>
      if hasEarlierBind c idx impl then some []     -- nested into the item of the first Bind on `impl` of this list
      else
      -- constructor looked up **by name** `New<T>` among the package's functions
      match tyName impl with
      | none => none
      | some n => (c.pkgFuncs.find? (fun f => f.name == ctorName n)).map
                    (fun f => [.bindProvide (i :: laterIfaces c idx impl) f])
  | .structP n fs => some [.provide { name := mkPtrName n, params := fs, result := .ptr n }]   -- always *T
  | .fieldsOf n _ fs => some (fs.map (fun ft => KItem.provide { name := fieldName, params := [.ptr n], result := ft }))  -- always *T receiver

/-- migrate the items `l`, the first of which has index `i`; output in item order -/
def migrateFrom (c : Cfg) : Nat → List Item → Option (List KItem)
  | _, [] => some []
  | i, it :: r =>
    match migrateItem c i it, migrateFrom c (i + 1) r with
    | some k, some l => some (k ++ l)
    | _, _ => none

def migrate (c : Cfg) : Option (List KItem) := migrateFrom c 0 c.items

/-! ### kessoku: by-type evaluation of the migrated declaration (unsupplied types become arguments) -/

def kSupplier (ks : List KItem) (t : Ty) : Option (Nat × List Ty) :=
  ks.findSome? fun
    | .provide f => if f.result = t then some (f.name, f.params) else none
    | .bindProvide is f => if f.result = t ∨ t ∈ is.map Ty.iface then some (f.name, f.params) else none

def kEval (ks : List KItem) : Nat → Ty → V
  | 0, _ => .bot
  | fuel + 1, t =>
    match kSupplier ks t with
    | some (name, ps) => .call name (ps.map (kEval ks fuel))
    | none => .arg t

/-- the types a migrated item supplies to kessoku (`Bind[J](Bind[I](Provide(f)))` supplies `f`'s result, `I` and `J`) -/
def kSupplied : KItem → List Ty
  | .provide f => [f.result]
  | .bindProvide is f => f.result :: is.map Ty.iface

/-- kessoku's "multiple providers provide T" refusal (`NewGraph`): two entries of the declaration — two *positions*, the
    provider identity there is the `ProviderSpec` pointer — supply a common type -/
def kAmbiguous : List KItem → Bool
  | [] => false
  | a :: r => r.any (fun b => (kSupplied a).any fun t => (kSupplied b).contains t) || kAmbiguous r

/-- the migration as the user experiences it: refused when `migrate` refuses **or** kessoku refuses the migrated
    declaration as ambiguous -/
def migrateChecked (c : Cfg) : Option (List KItem) :=
  match migrate c with
  | some ks => if kAmbiguous ks then none else some ks
  | none => none

/-! ### witnesses -/

def provideRepoName : Nat := 1
def newAppName : Nat := 2
def newSvcName : Nat := 3

/-- `ProvideRepo(Config) *PgRepo`, an unrelated `NewT1(string, int) *PgRepo`, `Bind(Repo, *PgRepo)`, `NewApp(Repo) *App` -/
def cfgBindByName : Cfg :=
  let provideRepo : Func := { name := provideRepoName, params := [.val 0], result := .ptr 1 }
  let newPgRepo : Func := { name := ctorName 1, params := [.basic 0, .basic 1], result := .ptr 1 }
  let newApp : Func := { name := newAppName, params := [.iface 0], result := .ptr 2 }
  { items := [.structP 0 [.basic 0, .basic 1], .func provideRepo, .bind 0 (.ptr 1), .func newApp],
    args := [.basic 0, .basic 1], ret := .ptr 2, pkgFuncs := [provideRepo, newPgRepo, newApp] }

def migratedEval (c : Cfg) (fuel : Nat) : V :=
  match migrateChecked c with
  | some ks => kEval ks fuel c.ret
  | none => .bot

/-- wire: `NewApp(ProvideRepo(Config{host, port}))` -/
theorem wire_calls_ProvideRepo :
    V.beq (wireEval cfgBindByName 8 (.ptr 2))
      (.call newAppName [.call provideRepoName [.call (mkName 0) [.arg (.basic 0), .arg (.basic 1)]]]) = true := by decide

/-- migrated: `NewApp(NewT1(host, port))` — the constructor found by name -/
theorem migrated_calls_NewT1 :
    V.beq (migratedEval cfgBindByName 8)
      (.call newAppName [.call (ctorName 1) [.arg (.basic 0), .arg (.basic 1)]]) = true := by decide

/-- **C13 is false of the current migration** (Bind resolved by constructor name): a different provider is invoked -/
theorem c13_bind_by_name_differs :
    V.beq (migratedEval cfgBindByName 8) (wireEval cfgBindByName 8 (.ptr 2)) = false := by decide

/-- value-form struct: `wire.Struct(new(T0), "*")` with a consumer of the *value* `T0` -/
def cfgStructValue : Cfg :=
  let useCfg : Func := { name := newSvcName, params := [.val 0], result := .ptr 1 }
  { items := [.structP 0 [.basic 0], .func useCfg], args := [.basic 0], ret := .ptr 1, pkgFuncs := [useCfg] }

/-- wire builds the struct; the migrated injector silently grows an extra parameter of type `T0` -/
theorem c13_struct_value_differs :
    V.beq (wireEval cfgStructValue 8 (.ptr 1)) (.call newSvcName [.call (mkName 0) [.arg (.basic 0)]]) = true ∧
    V.beq (migratedEval cfgStructValue 8) (.call newSvcName [.arg (.val 0)]) = true := by decide

/-! ### the subset of configurations on which the migration is faithful (definitions only; proofs in `KV/WireProofs.lean`) -/

mutual
/-- the term contains no `.bot`: the fuel sufficed -/
def V.noBot : V → Bool
  | .bot => false
  | .call _ as => V.noBotL as
  | _ => true
def V.noBotL : List V → Bool
  | [] => true
  | a :: as => V.noBot a && V.noBotL as
end

mutual
/-- the term contains no `.missing`: wire itself resolved every type -/
def V.noMissing : V → Bool
  | .missing _ => false
  | .call _ as => V.noMissingL as
  | _ => true
def V.noMissingL : List V → Bool
  | [] => true
  | a :: as => V.noMissing a && V.noMissingL as
end

def NoBot (v : V) : Prop := v.noBot = true
def NoMissing (v : V) : Prop := v.noMissing = true
instance (v : V) : Decidable (NoBot v) := inferInstanceAs (Decidable (v.noBot = true))
instance (v : V) : Decidable (NoMissing v) := inferInstanceAs (Decidable (v.noMissing = true))

/-- the types a provider-set item supplies to wire's solver (`Struct` supplies `T` and `*T`; a `Bind` supplies the interface) -/
def supplied : Item → List Ty
  | .func f => [f.result]
  | .bind i _ => [.iface i]
  | .structP n _ => [.val n, .ptr n]
  | .fieldsOf _ _ fs => fs

/-- the types an item asks the solver for, as written by the user (function parameters, struct fields).  The receiver of a
    `FieldsOf` and the implementation of a `Bind` are constrained separately by `itemOk`. -/
def consumed : Item → List Ty
  | .func f => f.params
  | .structP _ fs => fs
  | _ => []

/-- per-item restrictions.
    * `Bind(new(I), new(impl))`: `impl` is a named type `T`/`*T` (otherwise `migrate` refuses), the **by-name lookup** of
      `New<T>` among the package's functions succeeds, and the function it finds *is a provider listed in the set* whose result
      type is exactly `impl`.  Real-world restriction: the bound implementation is provided by its conventional constructor
      `New<T>`; any other provider (cf. `cfgBindByName`: `ProvideRepo`) is silently replaced by `New<T>`.
    * `FieldsOf`: pointer form only — the migration always emits a `*T` receiver. -/
def itemOk (c : Cfg) : Item → Bool
  | .bind _ impl =>
      match tyName impl with
      | none => false
      | some n =>
        match c.pkgFuncs.find? (fun f => f.name == ctorName n) with
        | some f => f.result == impl && c.items.contains (.func f)
        | none => false
  | .fieldsOf _ ptrForm _ => ptrForm
  | _ => true

/-- `t` is the value form `T` of some `wire.Struct(new(T), …)` in the set -/
def structVal (c : Cfg) (t : Ty) : Bool :=
  c.items.any fun | .structP n _ => t == .val n | _ => false

/-- every `wire.Bind` is written in the same element list as the listed provider function it stands for, and that
    function is listed in no other element list: each listed provider function whose result type is the bound
    implementation type sits in the `Bind`'s element list.  (By `itemOk` and supplier uniqueness that function is the
    conventional constructor `New<T>` the migrated `Bind[I](Provide(New<T>))` names.)  With `parts = []` every item is in
    list `0` and the condition holds trivially. -/
def bindTogether (c : Cfg) : Bool :=
  c.items.zipIdx.all fun p => match p.1 with
    | .bind _ impl => c.items.zipIdx.all fun q => match q.1 with
        | .func f => !(f.result == impl) || partOf c q.2 == partOf c p.2
        | _ => true
    | _ => true

def nodupTys : List Ty → Bool
  | [] => true
  | t :: r => !r.contains t && nodupTys r

/-- every type is supplied at one *position* only (the same item listed twice, or a `FieldsOf` naming two fields of one
    type, is wire's "multiple bindings" too — conjunct 2 of `faithful` compares items by value and lets these pass; one
    interface bound twice is excluded here as well: both `Bind`s supply the interface).
    Several `Bind`s on one implementation **in one element list** are fine: `Bind(I0, *T)`, `Bind(I1, *T)` migrate to the one
    item `Bind[I1](Bind[I0](Provide(NewT)))`.  `Bind`s on one implementation in two *different* element lists still migrate to
    two items that both supply `*T`; no separate conjunct is needed to exclude them: `itemOk` lists the constructor and
    `bindTogether` puts every `Bind` on its result type into the constructor's element list
    (`Wire.Faithful.bindSameList` in `KV/WireProofs.lean`; cf. `C13.cfgBindTwiceApart`). -/
def listedOnce (c : Cfg) : Bool :=
  nodupTys (c.items.flatMap supplied)

/-- Decidable subset of configurations on which `kessoku migrate` is faithful to google/wire.
    1. `itemOk` for every item (see there: `Bind` through the conventional constructor that is itself in the set; `FieldsOf`
       in pointer form).
    2. suppliers are unique: two *different* items never supply the same type.  This is wire's own "multiple bindings for
       type" rejection; in particular an interface is bound at most once, a bound interface is not also the result of a
       provider function or a `FieldsOf` field, and the constructor of a bound implementation is the only supplier of it.
    3. injector arguments are not supplied by any item (wire: "multiple bindings"; kessoku would prefer the provider and drop
       the argument, wire prefers the argument).
    4. the value form `T` of a `wire.Struct(new(T), …)` is never asked for (not the injector's result, not a parameter of a
       listed provider, not a field of a listed struct): the migration only emits the pointer form `*T`
       (cf. `cfgStructValue`).
    5. `bindTogether`: a `Bind` and the provider it stands for are written in the same element list, and only there
       (the migration collects bound types per element list; cf. `C13.cfgBindApart`).  Hence all `Bind`s on one
       implementation are written in one element list (cf. `C13.cfgBindTwiceApart`).
    6. `listedOnce`: position-wise uniqueness of suppliers.  Not needed for the equality of the computed terms (`kEval`
       takes the first supplier), needed for the migrated declaration not to be refused as ambiguous (`kAmbiguous`).
    An implementation type may be bound to several interfaces as long as those `Bind`s are written in one element list
    (they are nested around one provider); 1 and 5 together force exactly that. -/
def faithful (c : Cfg) : Bool :=
  c.items.all (itemOk c)
  && c.items.all (fun a => c.items.all fun b => a == b || (supplied a).all fun t => !(supplied b).contains t)
  && c.args.all (fun t => c.items.all fun a => !(supplied a).contains t)
  && (c.ret :: c.items.flatMap consumed).all (fun t => !structVal c t)
  && bindTogether c
  && listedOnce c

end Wire
