import KV.GenConv
/-! # Proofs about the `createASTTypeExpr` model (`KV/GenConv.lean`)

`render` is total, keeps the invariant of the import table (`Inv`: every imported name is in use in the pool and no two
packages share a name), only ever adds entries, and — for the types of `WF` — the expression it produces denotes, in the
file it is written to, the type it was made from.  The local names it gives to imports were not in use in the pool, and
every import it adds is mentioned by the expression.

A qualifier need not keep its meaning under `Inv` alone: `Inv` speaks about the entries `List.lookup` can see only, so a
table may hold a *shadowed* entry whose name is not in use, and that name may be handed out again (`render_mono_false`).
A qualifier that is in use in the pool does keep its meaning, with no `Inv` at all (`render_mono_partial`). -/
namespace GConv
open VP
open List (lookup_cons_of_absent lookup_cons_eq_some)

theorem pathOf_cons_self (p : Nat) (n : String) (l : List (Nat × String)) : pathOf ((p, n) :: l) n = some p := by
  simp [pathOf, List.find?]

theorem pathOf_cons_ne (p : Nat) (n q : String) (l : List (Nat × String)) (h : n ≠ q) :
    pathOf ((p, n) :: l) q = pathOf l q := by
  have : (n == q) = false := by simpa using h
  simp [pathOf, List.find?, this]

/-! ### what a run of the generator may do to the state -/

structure Ext (st st' : St) : Prop where
  imports : ∀ p n, st.imports.lookup p = some n → st'.imports.lookup p = some n
  inUse : ∀ k, 0 < count st.pool k → 0 < count st'.pool k
  quals : ∀ q p, pathOf st.imports q = some p → 0 < count st.pool q → pathOf st'.imports q = some p
  fresh : ∀ p n, st'.imports.lookup p = some n → st.imports.lookup p = some n ∨ count st.pool n = 0

theorem Ext.refl (st : St) : Ext st st :=
  ⟨fun _ _ h => h, fun _ h => h, fun _ _ h _ => h, fun _ _ h => Or.inl h⟩

theorem Ext.trans {a b c : St} (h1 : Ext a b) (h2 : Ext b c) : Ext a c := by
  refine ⟨fun p n h => h2.imports p n (h1.imports p n h), fun k h => h2.inUse k (h1.inUse k h),
    fun q p h hc => h2.quals q p (h1.quals q p h hc) (h1.inUse q hc), fun p n h => ?_⟩
  rcases h2.fresh p n h with h | h
  · exact h1.fresh p n h
  · -- not in use in `b`, so not in use in `a`
    refine Or.inr (Nat.eq_zero_of_not_pos fun hpos => ?_)
    have := h1.inUse n hpos
    omega

/-! ### `addImport` -/

theorem addImport_cases {st st' : St} {p : Nat} {d n : String} (ha : addImport st p d = some (st', n)) :
    (st' = st ∧ st.imports.lookup p = some n) ∨
    (st.imports.lookup p = none ∧ ∃ pool', getNameFix st.pool d = some (pool', n) ∧
      st' = { pool := pool', imports := (p, n) :: st.imports }) := by
  unfold addImport at ha
  split at ha
  · rename_i m hl
    cases ha
    exact Or.inl ⟨rfl, hl⟩
  · rename_i hl
    split at ha
    · cases ha
    · rename_i pool' m hg
      cases ha
      exact Or.inr ⟨hl, pool', hg, rfl⟩

theorem addImport_total (st : St) (p : Nat) (d : String) : addImport st p d ≠ none := by
  unfold addImport
  split
  · simp
  · split
    · rename_i h; exact absurd h (getNameFix_total _ _)
    · simp

theorem addImport_lookup {st st' : St} {p : Nat} {d n : String} (ha : addImport st p d = some (st', n)) :
    st'.imports.lookup p = some n := by
  rcases addImport_cases ha with ⟨rfl, hl⟩ | ⟨_, pool', _, rfl⟩
  · exact hl
  · exact List.lookup_cons_self

theorem addImport_inv {st st' : St} {p : Nat} {d n : String} (hi : Inv st) (ha : addImport st p d = some (st', n)) :
    Inv st' := by
  rcases addImport_cases ha with ⟨rfl, _⟩ | ⟨_, pool', hg, rfl⟩
  · exact hi
  · obtain ⟨hz, hpos, hmono⟩ := getNameFix_spec _ _ _ _ hg
    constructor
    · intro p' n' hl
      rcases lookup_cons_eq_some.1 hl with ⟨_, rfl⟩ | ⟨_, hl⟩
      · exact hpos
      · exact hmono _ (hi.1 _ _ hl)
    · intro p' n' hl
      rcases lookup_cons_eq_some.1 hl with ⟨rfl, rfl⟩ | ⟨_, hl⟩
      · exact pathOf_cons_self _ _ _
      · -- `n'` was in use, the new name `n` was not
        have hne : n ≠ n' := fun e => by have := hi.1 _ _ hl; rw [← e] at this; omega
        exact (pathOf_cons_ne _ _ _ _ hne).trans (hi.2 _ _ hl)

theorem addImport_ext {st st' : St} {p : Nat} {d n : String} (ha : addImport st p d = some (st', n)) :
    Ext st st' := by
  rcases addImport_cases ha with ⟨rfl, _⟩ | ⟨hnone, pool', hg, rfl⟩
  · exact Ext.refl _
  · obtain ⟨hz, _, hmono⟩ := getNameFix_spec _ _ _ _ hg
    refine ⟨fun p' n' hl => ?_, hmono, fun q p' hq hc => ?_, fun p' n' hl => ?_⟩
    · exact lookup_cons_of_absent hnone hl
    · have hne : n ≠ q := by intro e; rw [e] at hz; omega
      exact (pathOf_cons_ne _ _ _ _ hne).trans hq
    · rcases lookup_cons_eq_some.1 hl with ⟨_, rfl⟩ | ⟨_, hl⟩
      · exact Or.inr hz
      · exact Or.inl hl

theorem addImport_new {st st' : St} {p : Nat} {d n : String} (ha : addImport st p d = some (st', n)) :
    ∀ p' n', st'.imports.lookup p' = some n' → st.imports.lookup p' = some n' ∨ n' = n := by
  rcases addImport_cases ha with ⟨rfl, _⟩ | ⟨_, pool', _, rfl⟩
  · exact fun _ _ h => Or.inl h
  · exact fun p' n' hl => (lookup_cons_eq_some.1 hl).elim (fun h => Or.inr h.2.symm) (fun h => Or.inl h.2)

/-! ### one node -/

def tagWF : Tag → Bool
  | .basic n => decide (n < 16)
  | .named _ name => decide (16 ≤ name)
  | _ => true

theorem WF_node (tag : Tag) (kids : List Ty) : WF (.node tag kids) = (tagWF tag && WFList kids) := by
  rfl

theorem renderTag_spec (cur : Nat) (pname : Nat → String) (st : St) (tag : Tag) :
    (∃ etag, renderTag cur pname st tag = some (st, etag) ∧ (∀ q n, etag ≠ .sel q n) ∧
      ∀ st2, tagWF tag = true → resolveTag cur st2 etag = some tag) ∨
    (∃ p name, tag = .named p name ∧ p ≠ cur ∧
      renderTag cur pname st tag = (addImport st p (pname p)).map fun r => (r.1, .sel r.2 name)) := by
  cases tag with
  | named p name =>
    by_cases hpc : p = cur
    · refine Or.inl ⟨.ident name, if_pos hpc, fun _ _ h => ETag.noConfusion h, fun st2 hwf => ?_⟩
      rw [hpc]; exact if_neg (Nat.not_lt.2 (of_decide_eq_true hwf))
    · refine Or.inr ⟨p, name, rfl, hpc, (if_neg hpc).trans ?_⟩
      rcases addImport st p (pname p) with _ | ⟨st', q⟩ <;> rfl
  | basic n => exact Or.inl ⟨_, rfl, fun _ _ h => ETag.noConfusion h, fun _ hwf => if_pos (of_decide_eq_true hwf)⟩
  | _ => exact Or.inl ⟨_, rfl, fun _ _ h => ETag.noConfusion h, fun _ _ => rfl⟩

theorem renderTag_total (cur : Nat) (pname : Nat → String) (st : St) (tag : Tag) :
    renderTag cur pname st tag ≠ none := by
  rcases renderTag_spec cur pname st tag with ⟨etag, h, _⟩ | ⟨p, name, _, _, h⟩ <;> rw [h]
  · exact Option.some_ne_none _
  · rw [Ne, Option.map_eq_none_iff]; exact addImport_total st p (pname p)

theorem renderTag_cases {cur : Nat} {pname : Nat → String} {st st1 : St} {tag : Tag} {etag : ETag}
    (h : renderTag cur pname st tag = some (st1, etag)) :
    (st1 = st ∧ ∀ q n, etag ≠ .sel q n) ∨
    (∃ p name q, tag = .named p name ∧ p ≠ cur ∧
      addImport st p (pname p) = some (st1, q) ∧ etag = .sel q name) := by
  rcases renderTag_spec cur pname st tag with ⟨etag', he, hns, _⟩ | ⟨p, name, ht, hpc, he⟩ <;> rw [he] at h
  · cases h; exact Or.inl ⟨rfl, hns⟩
  · obtain ⟨⟨st', q⟩, ha, h⟩ := Option.map_eq_some_iff.1 h
    cases h; exact Or.inr ⟨p, name, q, ht, hpc, ha, rfl⟩

theorem renderTag_roundtrip {cur : Nat} {pname : Nat → String} {st st1 st2 : St} {tag : Tag} {etag : ETag}
    (hwf : tagWF tag = true) (h : renderTag cur pname st tag = some (st1, etag))
    (h2 : ∀ p n, st1.imports.lookup p = some n → pathOf st2.imports n = some p) :
    resolveTag cur st2 etag = some tag := by
  rcases renderTag_spec cur pname st tag with ⟨etag', he, _, hrt⟩ | ⟨p, name, rfl, _, he⟩ <;> rw [he] at h
  · cases h; exact hrt st2 hwf
  · obtain ⟨⟨st', q⟩, ha, h⟩ := Option.map_eq_some_iff.1 h
    cases h
    simp only [resolveTag, h2 _ _ (addImport_lookup ha), Option.map_some]

theorem resolveTag_mono {cur : Nat} {st st2 : St} {etag : ETag} {tag : Tag}
    (hm : ∀ q p, pathOf st.imports q = some p → pathOf st2.imports q = some p)
    (h : resolveTag cur st etag = some tag) : resolveTag cur st2 etag = some tag := by
  cases etag with
  | sel q name =>
    obtain ⟨p, hq, h⟩ := Option.map_eq_some_iff.1 h
    exact Option.map_eq_some_iff.2 ⟨p, hm q p hq, h⟩
  | _ => exact h

/-! ### the recursive definitions, one equation each -/

theorem render_node (cur : Nat) (pname : Nat → String) (st : St) (tag : Tag) (kids : List Ty) :
    render cur pname st (.node tag kids) =
      (renderTag cur pname st tag).bind fun r => (renderList cur pname r.1 kids).map fun s => (s.1, .node r.2 s.2) := by
  rw [render]
  rcases renderTag cur pname st tag with _ | ⟨st1, etag⟩
  · rfl
  · dsimp only [Option.bind_some]; cases renderList cur pname st1 kids <;> rfl

theorem renderList_cons (cur : Nat) (pname : Nat → String) (st : St) (t : Ty) (ts : List Ty) :
    renderList cur pname st (t :: ts) =
      (render cur pname st t).bind fun r => (renderList cur pname r.1 ts).map fun s => (s.1, r.2 :: s.2) := by
  rw [renderList]
  rcases render cur pname st t with _ | ⟨st1, e⟩
  · rfl
  · dsimp only [Option.bind_some]; cases renderList cur pname st1 ts <;> rfl

theorem resolve_node (cur : Nat) (st : St) (etag : ETag) (es : List Ex) :
    resolve cur st (.node etag es) = (resolveTag cur st etag).bind fun tag => (resolveList cur st es).map (.node tag) := by
  rw [resolve]
  cases resolveTag cur st etag <;> cases resolveList cur st es <;> rfl

theorem resolveList_cons (cur : Nat) (st : St) (e : Ex) (es : List Ex) :
    resolveList cur st (e :: es) = (resolve cur st e).bind fun t => (resolveList cur st es).map (t :: ·) := by
  rw [resolveList]
  cases resolve cur st e <;> cases resolveList cur st es <;> rfl

theorem mem_quals_node {q : String} {etag : ETag} {es : List Ex} :
    q ∈ quals (.node etag es) ↔ (∃ name, etag = .sel q name) ∨ q ∈ qualsList es := by
  by_cases h : ∃ q' name, etag = .sel q' name
  · obtain ⟨q', name, rfl⟩ := h
    rw [quals, List.mem_cons]
    exact or_congr_left ⟨fun e => ⟨name, e ▸ rfl⟩, fun ⟨_, e⟩ => by cases e; rfl⟩
  · rw [quals]
    · exact ⟨Or.inr, fun h' => h'.resolve_left fun ⟨name, e⟩ => h ⟨q, name, e⟩⟩
    · exact fun q' name e => h ⟨q', name, e⟩

/-! ### induction over a successful run of `render` (as in `KV/TypeConvProofs.lean`) -/

theorem render_induct {cur : Nat} {pname : Nat → String}
    {P : Ty → St → St → Ex → Prop} {Q : List Ty → St → St → List Ex → Prop}
    (node : ∀ {tag kids st st1 st' etag es}, renderTag cur pname st tag = some (st1, etag) →
      renderList cur pname st1 kids = some (st', es) → Q kids st1 st' es → P (.node tag kids) st st' (.node etag es))
    (nil : ∀ st, Q [] st st [])
    (cons : ∀ {t ts st st1 st' e es}, render cur pname st t = some (st1, e) →
      renderList cur pname st1 ts = some (st', es) → P t st st1 e → Q ts st1 st' es → Q (t :: ts) st st' (e :: es)) :
    (∀ t st st' e, render cur pname st t = some (st', e) → P t st st' e) ∧
    (∀ ts st st' es, renderList cur pname st ts = some (st', es) → Q ts st st' es) := by
  let M1 (t : Ty) : Prop := ∀ st st' e, render cur pname st t = some (st', e) → P t st st' e
  let M2 (ts : List Ty) : Prop := ∀ st st' es, renderList cur pname st ts = some (st', es) → Q ts st st' es
  have hnode : ∀ tag kids, M2 kids → M1 (.node tag kids) := by
    intro tag kids ih st st' e h
    rw [render_node] at h
    obtain ⟨⟨st1, etag⟩, h1, h⟩ := Option.bind_eq_some_iff.1 h
    obtain ⟨⟨st2, es⟩, h2, h⟩ := Option.map_eq_some_iff.1 h
    cases h
    exact node h1 h2 (ih _ _ _ h2)
  have hnil : M2 [] := by
    intro st st' es h
    rw [renderList] at h
    cases h
    exact nil _
  have hcons : ∀ t ts, M1 t → M2 ts → M2 (t :: ts) := by
    intro t ts ih1 ih2 st st' es h
    rw [renderList_cons] at h
    obtain ⟨⟨st1, e⟩, h1, h⟩ := Option.bind_eq_some_iff.1 h
    obtain ⟨⟨st2, es'⟩, h2, h⟩ := Option.map_eq_some_iff.1 h
    cases h
    exact cons h1 h2 (ih1 _ _ _ h1) (ih2 _ _ _ h2)
  exact ⟨fun t => Ty.rec (motive_1 := M1) (motive_2 := M2) hnode hnil hcons t,
    fun ts => Ty.rec_1 (motive_1 := M1) (motive_2 := M2) hnode hnil hcons ts⟩

theorem render_rel {cur : Nat} {pname : Nat → String} {R : St → St → Prop}
    (refl : ∀ a, R a a) (trans : ∀ {a b c}, R a b → R b c → R a c)
    (step : ∀ {st st' p d n}, addImport st p d = some (st', n) → R st st') :
    (∀ t st st' e, render cur pname st t = some (st', e) → R st st') ∧
    (∀ ts st st' es, renderList cur pname st ts = some (st', es) → R st st') := by
  refine render_induct (P := fun _ st st' _ => R st st') (Q := fun _ st st' _ => R st st')
    (fun h1 _ ih => trans ?_ ih) refl (fun _ _ ih1 ih2 => trans ih1 ih2)
  rcases renderTag_cases h1 with ⟨rfl, _⟩ | ⟨_, _, _, _, _, ha, _⟩
  · exact refl _
  · exact step ha

/-! ### totality -/

mutual
theorem render_total (cur : Nat) (pname : Nat → String) :
    ∀ (st : St) (t : Ty), render cur pname st t ≠ none
  | st, .node tag kids => by
    obtain ⟨r, h1⟩ := Option.ne_none_iff_exists'.1 (renderTag_total cur pname st tag)
    obtain ⟨s, h2⟩ := Option.ne_none_iff_exists'.1 (renderList_total cur pname r.1 kids)
    rw [render_node, h1, Option.bind_some, h2]
    exact Option.some_ne_none _
theorem renderList_total (cur : Nat) (pname : Nat → String) :
    ∀ (st : St) (ts : List Ty), renderList cur pname st ts ≠ none
  | st, [] => by rw [renderList]; exact Option.some_ne_none _
  | st, t :: ts => by
    obtain ⟨r, h1⟩ := Option.ne_none_iff_exists'.1 (render_total cur pname st t)
    obtain ⟨s, h2⟩ := Option.ne_none_iff_exists'.1 (renderList_total cur pname r.1 ts)
    rw [renderList_cons, h1, Option.bind_some, h2]
    exact Option.some_ne_none _
end

/-! ### the invariant is kept -/

theorem render_inv_both {cur : Nat} {pname : Nat → String} :
    (∀ t st st' e, render cur pname st t = some (st', e) → Inv st → Inv st') ∧
    (∀ ts st st' es, renderList cur pname st ts = some (st', es) → Inv st → Inv st') :=
  render_rel (R := fun a b => Inv a → Inv b) (fun _ h => h) (fun f g h => g (f h)) fun ha h => addImport_inv h ha

theorem render_inv {cur : Nat} {pname : Nat → String} :
    ∀ (t : Ty) (st st' : St) (e : Ex), Inv st → render cur pname st t = some (st', e) → Inv st' :=
  fun t st st' e hi h => render_inv_both.1 t st st' e h hi

theorem renderList_inv {cur : Nat} {pname : Nat → String} :
    ∀ (ts : List Ty) (st st' : St) (es : List Ex), Inv st → renderList cur pname st ts = some (st', es) → Inv st' :=
  fun ts st st' es hi h => render_inv_both.2 ts st st' es h hi

/-! ### entries are only added, with names that were not in use (no `Inv` needed) -/

theorem render_ext_both {cur : Nat} {pname : Nat → String} :
    (∀ t st st' e, render cur pname st t = some (st', e) → Ext st st') ∧
    (∀ ts st st' es, renderList cur pname st ts = some (st', es) → Ext st st') :=
  render_rel Ext.refl Ext.trans addImport_ext

/-- under `Inv` alone a qualifier may change its meaning: in the table `[(1, "a"), (1, "b")]` the entry `(1, "b")` is
    shadowed, `"b"` is not in use, and it is handed out to package 2 -/
theorem render_mono_false :
    let st : St := { pool := [("a", 1)], imports := [(1, "a"), (1, "b")] }
    Inv st ∧ pathOf st.imports "b" = some 1 ∧
    ∃ st' e, render 0 (fun _ => "b") st (.node (.named 2 16) []) = some (st', e) ∧
      pathOf st'.imports "b" = some 2 := by
  intro st
  have key : ∀ p n, st.imports.lookup p = some n → p = 1 ∧ n = "a" := by
    intro p n hl
    rcases lookup_cons_eq_some.1 hl with ⟨rfl, rfl⟩ | ⟨hp, hl⟩
    · exact ⟨rfl, rfl⟩
    · rcases lookup_cons_eq_some.1 hl with ⟨rfl, _⟩ | ⟨_, hl⟩
      · exact absurd rfl hp
      · cases hl
  refine ⟨⟨fun p n hl => ?_, fun p n hl => ?_⟩, by decide, ?_⟩
  · obtain ⟨rfl, rfl⟩ := key p n hl; decide
  · obtain ⟨rfl, rfl⟩ := key p n hl; decide
  · exact ⟨{ pool := [("a", 1), ("b", 1)], imports := [(2, "b"), (1, "a"), (1, "b")] },
      .node (.sel "b" 16) [], by rfl, by decide⟩

/-- a qualifier **that is in use in the pool** keeps its meaning (`Inv` is not needed) -/
theorem render_mono_partial {cur : Nat} {pname : Nat → String} (t : Ty) (st st' : St) (e : Ex)
    (h : render cur pname st t = some (st', e)) :
    (∀ q p, pathOf st.imports q = some p → 0 < count st.pool q → pathOf st'.imports q = some p) ∧
    (∀ p n, st.imports.lookup p = some n → st'.imports.lookup p = some n) ∧
    (∀ k, 0 < count st.pool k → 0 < count st'.pool k) :=
  let x := render_ext_both.1 t st st' e h
  ⟨x.quals, x.imports, x.inUse⟩

theorem renderList_mono_partial {cur : Nat} {pname : Nat → String} (ts : List Ty) (st st' : St) (es : List Ex)
    (h : renderList cur pname st ts = some (st', es)) :
    (∀ q p, pathOf st.imports q = some p → 0 < count st.pool q → pathOf st'.imports q = some p) ∧
    (∀ p n, st.imports.lookup p = some n → st'.imports.lookup p = some n) ∧
    (∀ k, 0 < count st.pool k → 0 < count st'.pool k) :=
  let x := render_ext_both.2 ts st st' es h
  ⟨x.quals, x.imports, x.inUse⟩

/-- in particular the name the table gives to a package (these are the qualifiers `Inv` speaks about) -/
theorem render_mono_lookup {cur : Nat} {pname : Nat → String} (t : Ty) (st st' : St) (e : Ex) (hi : Inv st)
    (h : render cur pname st t = some (st', e)) :
    ∀ q p, st.imports.lookup p = some q → pathOf st'.imports q = some p :=
  fun q p hl => (render_mono_partial t st st' e h).1 q p (hi.2 p q hl) (hi.1 p q hl)

theorem renderList_mono_lookup {cur : Nat} {pname : Nat → String} (ts : List Ty) (st st' : St) (es : List Ex)
    (hi : Inv st) (h : renderList cur pname st ts = some (st', es)) :
    ∀ q p, st.imports.lookup p = some q → pathOf st'.imports q = some p :=
  fun q p hl => (renderList_mono_partial ts st st' es h).1 q p (hi.2 p q hl) (hi.1 p q hl)

/-- every qualifier keeps its meaning in a table all of whose names (shadowed or not) are in use — e.g. the empty one -/
theorem render_mono_of_allUsed {cur : Nat} {pname : Nat → String} (t : Ty) (st st' : St) (e : Ex)
    (hu : ∀ q p, pathOf st.imports q = some p → 0 < count st.pool q)
    (h : render cur pname st t = some (st', e)) :
    (∀ q p, pathOf st.imports q = some p → pathOf st'.imports q = some p) ∧
    (∀ p n, st.imports.lookup p = some n → st'.imports.lookup p = some n) ∧
    (∀ k, 0 < count st.pool k → 0 < count st'.pool k) :=
  let ⟨a, b, c⟩ := render_mono_partial t st st' e h
  ⟨fun q p hq => a q p hq (hu q p hq), b, c⟩

/-! ### what an expression denotes does not change when the qualifiers keep their meaning -/

mutual
theorem resolve_mono {cur : Nat} {st st2 : St}
    (hm : ∀ q p, pathOf st.imports q = some p → pathOf st2.imports q = some p) :
    ∀ (e : Ex) (t : Ty), resolve cur st e = some t → resolve cur st2 e = some t
  | .node etag es, t, h => by
    rw [resolve_node] at h ⊢
    obtain ⟨tag, h1, h⟩ := Option.bind_eq_some_iff.1 h
    obtain ⟨ts, h2, h⟩ := Option.map_eq_some_iff.1 h
    rw [resolveTag_mono hm h1, Option.bind_some, resolveList_mono hm es ts h2]
    exact h ▸ rfl
theorem resolveList_mono {cur : Nat} {st st2 : St}
    (hm : ∀ q p, pathOf st.imports q = some p → pathOf st2.imports q = some p) :
    ∀ (es : List Ex) (ts : List Ty), resolveList cur st es = some ts → resolveList cur st2 es = some ts
  | [], ts, h => by
    rw [resolveList] at h ⊢; exact h
  | e :: es, ts, h => by
    rw [resolveList_cons] at h ⊢
    obtain ⟨t, h1, h⟩ := Option.bind_eq_some_iff.1 h
    obtain ⟨ts', h2, h⟩ := Option.map_eq_some_iff.1 h
    rw [resolve_mono hm e t h1, Option.bind_some, resolveList_mono hm es ts' h2]
    exact h ▸ rfl
end

/-! ### round trip

Proved for every table `st2` that reads the names of the imports of `st'` back as their packages: for a later table that
satisfies `Inv` and keeps the entries of `st'` that is `Inv`'s second clause, so no statement about `pathOf` over time is
needed. -/

theorem render_roundtrip_later_both {cur : Nat} {pname : Nat → String} {st2 : St} :
    (∀ t st st' e, render cur pname st t = some (st', e) → WF t = true →
      (∀ p n, st'.imports.lookup p = some n → pathOf st2.imports n = some p) → resolve cur st2 e = some t) ∧
    (∀ ts st st' es, renderList cur pname st ts = some (st', es) → WFList ts = true →
      (∀ p n, st'.imports.lookup p = some n → pathOf st2.imports n = some p) → resolveList cur st2 es = some ts) := by
  refine render_induct ?_ ?_ ?_
  · intro tag kids st st1 st' etag es h1 h2 ih hwf hm
    rw [WF_node, Bool.and_eq_true] at hwf
    have hl := (render_ext_both.2 kids st1 st' es h2).imports
    rw [resolve_node, renderTag_roundtrip hwf.1 h1 (fun p n hp => hm p n (hl p n hp)), Option.bind_some, ih hwf.2 hm]
    rfl
  · intro st _ _; rw [resolveList]
  · intro t ts st st1 st' e es h1 h2 ih1 ih2 hwf hm
    simp only [WFList, Bool.and_eq_true] at hwf
    have hl := (render_ext_both.2 ts st1 st' es h2).imports
    rw [resolveList_cons, ih1 hwf.1 (fun p n hp => hm p n (hl p n hp)), Option.bind_some, ih2 hwf.2 hm]
    rfl

theorem render_roundtrip_later {cur : Nat} {pname : Nat → String} :
    ∀ (t : Ty) (st st' st2 : St) (e : Ex), WF t = true → render cur pname st t = some (st', e) →
      Inv st2 → (∀ p n, st'.imports.lookup p = some n → st2.imports.lookup p = some n) →
      resolve cur st2 e = some t :=
  fun t st st' _ e hwf h hi2 hm => render_roundtrip_later_both.1 t st st' e h hwf fun p n hl => hi2.2 p n (hm p n hl)

theorem renderList_roundtrip_later {cur : Nat} {pname : Nat → String} :
    ∀ (ts : List Ty) (st st' st2 : St) (es : List Ex), WFList ts = true →
      renderList cur pname st ts = some (st', es) →
      Inv st2 → (∀ p n, st'.imports.lookup p = some n → st2.imports.lookup p = some n) →
      resolveList cur st2 es = some ts :=
  fun ts st st' _ es hwf h hi2 hm => render_roundtrip_later_both.2 ts st st' es h hwf fun p n hl => hi2.2 p n (hm p n hl)

theorem render_roundtrip {cur : Nat} {pname : Nat → String} (t : Ty) (st st' : St) (e : Ex) (hi : Inv st)
    (hwf : WF t = true) (h : render cur pname st t = some (st', e)) : resolve cur st' e = some t :=
  render_roundtrip_later_both.1 t st st' e h hwf (render_inv t st st' e hi h).2

theorem renderList_roundtrip {cur : Nat} {pname : Nat → String} (ts : List Ty) (st st' : St) (es : List Ex)
    (hi : Inv st) (hwf : WFList ts = true) (h : renderList cur pname st ts = some (st', es)) :
    resolveList cur st' es = some ts :=
  render_roundtrip_later_both.2 ts st st' es h hwf (renderList_inv ts st st' es hi h).2

/-! ### every qualifier is imported -/

theorem render_quals_lookup {cur : Nat} {pname : Nat → String} :
    (∀ t st st' e, render cur pname st t = some (st', e) → ∀ q ∈ quals e, ∃ p, st'.imports.lookup p = some q) ∧
    (∀ ts st st' es, renderList cur pname st ts = some (st', es) →
      ∀ q ∈ qualsList es, ∃ p, st'.imports.lookup p = some q) := by
  refine render_induct ?_ ?_ ?_
  · intro tag kids st st1 st' etag es h1 h2 ih q hq
    rcases mem_quals_node.1 hq with ⟨name, rfl⟩ | hq
    · -- a qualifier that is written is the name `addImport` returned
      rcases renderTag_cases h1 with ⟨_, hns⟩ | ⟨p, _, _, _, _, ha, he⟩
      · exact absurd rfl (hns q name)
      · cases he
        exact ⟨p, (render_ext_both.2 kids st1 st' es h2).imports p q (addImport_lookup ha)⟩
    · exact ih q hq
  · intro st q hq; simp [qualsList] at hq
  · intro t ts st st1 st' e es h1 h2 ih1 ih2 q hq
    simp only [qualsList, List.mem_append] at hq
    rcases hq with hq | hq
    · obtain ⟨p, hp⟩ := ih1 q hq
      exact ⟨p, (render_ext_both.2 ts st1 st' es h2).imports p q hp⟩
    · exact ih2 q hq

theorem render_quals_imported {cur : Nat} {pname : Nat → String} (t : Ty) (st st' : St) (e : Ex) (hi : Inv st)
    (h : render cur pname st t = some (st', e)) : ∀ q ∈ quals e, (pathOf st'.imports q).isSome := by
  intro q hq
  obtain ⟨p, hp⟩ := render_quals_lookup.1 t st st' e h q hq
  rw [(render_inv t st st' e hi h).2 p q hp]; rfl

theorem renderList_quals_imported {cur : Nat} {pname : Nat → String} (ts : List Ty) (st st' : St) (es : List Ex)
    (hi : Inv st) (h : renderList cur pname st ts = some (st', es)) :
    ∀ q ∈ qualsList es, (pathOf st'.imports q).isSome := by
  intro q hq
  obtain ⟨p, hp⟩ := render_quals_lookup.2 ts st st' es h q hq
  rw [(renderList_inv ts st st' es hi h).2 p q hp]; rfl

/-! ### every import added while spelling a type is used by it -/

theorem render_no_unused_both {cur : Nat} {pname : Nat → String} :
    (∀ t st st' e, render cur pname st t = some (st', e) →
      ∀ p n, st'.imports.lookup p = some n → st.imports.lookup p = some n ∨ n ∈ quals e) ∧
    (∀ ts st st' es, renderList cur pname st ts = some (st', es) →
      ∀ p n, st'.imports.lookup p = some n → st.imports.lookup p = some n ∨ n ∈ qualsList es) := by
  refine render_induct ?_ ?_ ?_
  · intro tag kids st st1 st' etag es h1 _ ih p n hl
    rcases ih p n hl with hl1 | hm
    · -- an import the node itself added is named by the node's selector
      rcases renderTag_cases h1 with ⟨rfl, _⟩ | ⟨_, name, q, _, _, ha, rfl⟩
      · exact Or.inl hl1
      · exact (addImport_new ha p n hl1).imp_right fun e => mem_quals_node.2 (Or.inl ⟨name, by rw [e]⟩)
    · exact Or.inr (mem_quals_node.2 (Or.inr hm))
  · exact fun _ _ _ hl => Or.inl hl
  · intro t ts st st1 st' e es _ _ ih1 ih2 p n hl
    simp only [qualsList, List.mem_append]
    rcases ih2 p n hl with hl1 | hm
    · exact (ih1 p n hl1).imp_right Or.inl
    · exact Or.inr (Or.inr hm)

theorem render_no_unused {cur : Nat} {pname : Nat → String} :
    ∀ (t : Ty) (st st' : St) (e : Ex), render cur pname st t = some (st', e) →
      ∀ p n, st'.imports.lookup p = some n → st.imports.lookup p = some n ∨ n ∈ quals e :=
  render_no_unused_both.1

theorem renderList_no_unused {cur : Nat} {pname : Nat → String} :
    ∀ (ts : List Ty) (st st' : St) (es : List Ex), renderList cur pname st ts = some (st', es) →
      ∀ p n, st'.imports.lookup p = some n → st.imports.lookup p = some n ∨ n ∈ qualsList es :=
  render_no_unused_both.2

/-! ### the local names given to imports were not in use -/

theorem render_names_fresh {cur : Nat} {pname : Nat → String} (t : Ty) (st st' : St) (e : Ex) (_hi : Inv st)
    (h : render cur pname st t = some (st', e)) :
    ∀ p n, st'.imports.lookup p = some n → st.imports.lookup p = some n ∨ count st.pool n = 0 :=
  (render_ext_both.1 t st st' e h).fresh

theorem renderList_names_fresh {cur : Nat} {pname : Nat → String} (ts : List Ty) (st st' : St) (es : List Ex)
    (_hi : Inv st) (h : renderList cur pname st ts = some (st', es)) :
    ∀ p n, st'.imports.lookup p = some n → st.imports.lookup p = some n ∨ count st.pool n = 0 :=
  (render_ext_both.2 ts st st' es h).fresh

/-! ### a state that has no imports yet (the one a file starts from) -/

theorem renderList_of_no_imports {cur : Nat} {pname : Nat → String} {st st' : St} {ts : List Ty} {es : List Ex}
    (h0 : st.imports = []) (hwf : WFList ts = true) (h : renderList cur pname st ts = some (st', es)) :
    resolveList cur st' es = some ts ∧ Inv st' ∧
    ∀ p n, st'.imports.lookup p = some n → count st.pool n = 0 ∧ n ∈ qualsList es := by
  have hold : ∀ p n, st.imports.lookup p ≠ some n := fun p n hl => by rw [h0] at hl; cases hl
  have hi : Inv st := ⟨fun p n hl => absurd hl (hold p n), fun p n hl => absurd hl (hold p n)⟩
  exact ⟨renderList_roundtrip ts st st' es hi hwf h, renderList_inv ts st st' es hi h, fun p n hl =>
    ⟨((render_ext_both.2 ts st st' es h).fresh p n hl).resolve_left (hold p n),
      (renderList_no_unused ts st st' es h p n hl).resolve_left (hold p n)⟩⟩

/-! ### non-vacuity -/

/-- `map[store0.N0]func(store1.N1[store0.N0]) int` seen from package 0: packages 1 and 2 both declare the name `store`,
    and the user's package already uses the identifier `store` -/
def exTy : Ty :=
  .node .map [.node (.named 1 16) [],
              .node (.func 1) [.node (.named 2 17) [.node (.named 1 16) []], .node (.basic 0) []]]

def exSt : St := { pool := [("store", 1)], imports := [] }

example : WF exTy = true := by decide

theorem exTy_render : render 0 (fun _ => "store") exSt exTy =
    some ({ pool := [("store", 3), ("store0", 1), ("store1", 1)], imports := [(2, "store1"), (1, "store0")] },
      .node .map [.node (.sel "store0" 16) [],
                  .node (.func 1) [.node (.sel "store1" 17) [.node (.sel "store0" 16) []], .node (.ident 0) []]]) := by
  rfl

example : (render 0 (fun _ => "store") exSt exTy).bind (fun r => resolve 0 r.1 r.2) = some exTy := by
  rfl

end GConv

#print axioms GConv.render_total
#print axioms GConv.renderList_total
#print axioms GConv.render_inv
#print axioms GConv.renderList_inv
#print axioms GConv.render_mono_false
#print axioms GConv.render_mono_partial
#print axioms GConv.renderList_mono_partial
#print axioms GConv.render_mono_lookup
#print axioms GConv.renderList_mono_lookup
#print axioms GConv.render_mono_of_allUsed
#print axioms GConv.resolve_mono
#print axioms GConv.resolveList_mono
#print axioms GConv.render_roundtrip_later
#print axioms GConv.renderList_roundtrip_later
#print axioms GConv.render_roundtrip
#print axioms GConv.renderList_roundtrip
#print axioms GConv.render_quals_imported
#print axioms GConv.renderList_quals_imported
#print axioms GConv.render_no_unused
#print axioms GConv.renderList_no_unused
#print axioms GConv.render_names_fresh
#print axioms GConv.renderList_names_fresh
#print axioms GConv.exTy_render
