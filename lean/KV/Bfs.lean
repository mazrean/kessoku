import KV.Plan
/-! `newGraph` with an explicit "queue drained" check, for the BFS invariants. -/
namespace KV

def bfsFuel (provs : List PSpec) : Nat :=
  4 * (provs.length + (provs.foldl (fun a p => a + p.requires.length) 0)) + 8

def bfsInit (rp : Nat) : BfsSt :=
  { nodes := [{ isArg := false, prov := rp }], provNode := [], argNode := [], queue := [0], visited := [],
    edges := [[]], rev := [[]] }

def newGraph2 (provs0 : List PSpec) (ret : Nat) : Except PlanErr Graph := do
  let sup1 ← pass1 0 provs0 []
  let structs := provs0.filter (·.kind == 1)
  let (provs, sup) ← pass2 structs provs0 sup1
  match sup.lookup ret with
  | none =>
    pure { provs := provs, nodes := [{ isArg := true, ty := ret }], edges := [[]], rev := [[]],
           retNode := 0, retIdx := 0 }
  | some (rp, ri) =>
    let st := bfsLoop provs sup (bfsFuel provs) (bfsInit rp)
    if !st.queue.isEmpty then throw .invalid
    else if detectCycles st.edges st.nodes.length then throw .cycle
    else pure { provs := provs, nodes := st.nodes, edges := st.edges, rev := st.rev, retNode := 0, retIdx := ri }

end KV
