import KV.Bfs
import KV.SupProof
/-! # The supplier map of a declaration (passes 1 and 2 of `NewGraph`)

`newGraph2` in two stages: the supplier map (`supplierMap`: pass 1 over the function providers, pass 2 expanding
struct providers into field-access providers), then the graph built by the BFS from the supplier of the requested
type (`graphOf`; `newGraph2_factor`).  About the first stage, at the level of the declaration: why it fails
(`supplierMap_err_cases`), when it exists (`supplierMap_isOk_iff`), what it contains (`supplierMap_spec`), and that
its entries are valid (`supplierMap_supOK`). -/
namespace KV

/-- Passes 1 and 2 of `NewGraph`: pass 1 over the function providers, then pass 2 expanding the struct providers.
    Returns the provider list extended with the synthetic field-access providers, and the supplier map. -/
def supplierMap (provs0 : List PSpec) : Except PlanErr (List PSpec × SupMap) := do
  let sup1 ← pass1 0 provs0 []
  pass2 (provs0.filter (·.kind == 1)) provs0 sup1

/-- `supplierMap` under the name the statements of C09 use (`cycle_refused`, `C09.C09_refuse_cycle`); the same function,
    `expand_eq_supplierMap` -/
def expand (provs0 : List PSpec) : Except PlanErr (List PSpec × SupMap) := do
  let sup1 ← pass1 0 provs0 []
  pass2 (provs0.filter (·.kind == 1)) provs0 sup1

theorem expand_eq_supplierMap : expand = supplierMap := rfl

/-- the rest of `newGraph2`: BFS from the supplier of `ret` (or the single argument node) -/
def graphOf (provs : List PSpec) (sup : SupMap) (ret : Nat) : Except PlanErr Graph :=
  match sup.lookup ret with
  | none =>
    pure { provs := provs, nodes := [{ isArg := true, ty := ret }], edges := [[]], rev := [[]],
           retNode := 0, retIdx := 0 }
  | some (rp, ri) =>
    let st := bfsLoop provs sup (bfsFuel provs) (bfsInit rp)
    if !st.queue.isEmpty then throw .invalid
    else if detectCycles st.edges st.nodes.length then throw .cycle
    else pure { provs := provs, nodes := st.nodes, edges := st.edges, rev := st.rev, retNode := 0, retIdx := ri }

theorem newGraph2_factor (provs0 : List PSpec) (ret : Nat) :
    newGraph2 provs0 ret = (supplierMap provs0 >>= fun r => graphOf r.1 r.2 ret) := by
  simp only [newGraph2, supplierMap, graphOf, bind, Except.bind]
  cases pass1 0 provs0 [] with
  | error e => rfl
  | ok sup1 =>
    simp only
    cases pass2 (List.filter (fun x => x.kind == 1) provs0) provs0 sup1 with
    | error e => rfl
    | ok r => rfl

theorem newGraph2_of_supplierMap {provs0 provs : List PSpec} {sup : SupMap} (ret : Nat)
    (h : supplierMap provs0 = .ok (provs, sup)) : newGraph2 provs0 ret = graphOf provs sup ret := by
  rw [newGraph2_factor, h]; rfl

theorem supplierMap_of_newGraph2 {provs0 : List PSpec} {ret : Nat} {g : Graph} (h : newGraph2 provs0 ret = .ok g) :
    ∃ provs sup, supplierMap provs0 = .ok (provs, sup) ∧ graphOf provs sup ret = .ok g := by
  rw [newGraph2_factor] at h
  cases hs : supplierMap provs0 with
  | error e => rw [hs] at h; cases h
  | ok r => rw [hs] at h; exact ⟨r.1, r.2, rfl, h⟩

theorem graphOf_ok {provs : List PSpec} {sup : SupMap} {ret : Nat} {g : Graph} (h : graphOf provs sup ret = .ok g) :
    (sup.lookup ret = none ∧
      g = { provs := provs, nodes := [{ isArg := true, ty := ret }], edges := [[]], rev := [[]],
            retNode := 0, retIdx := 0 }) ∨
    ∃ rp ri st, sup.lookup ret = some (rp, ri) ∧ st = bfsLoop provs sup (bfsFuel provs) (bfsInit rp) ∧
      st.queue = [] ∧ detectCycles st.edges st.nodes.length = false ∧
      g = { provs := provs, nodes := st.nodes, edges := st.edges, rev := st.rev, retNode := 0, retIdx := ri } := by
  unfold graphOf at h
  split at h
  · rename_i hl
    cases h; exact Or.inl ⟨hl, rfl⟩
  · rename_i rp ri hl
    simp only at h
    split at h
    · cases h
    · rename_i hq
      split at h
      · cases h
      · rename_i hc
        cases h
        exact Or.inr ⟨rp, ri, _, hl, rfl, by simpa using hq, by simpa using hc, rfl⟩

/-- the converse of the second case of `graphOf_ok` -/
theorem graphOf_of_drained {provs : List PSpec} {sup : SupMap} {ret rp ri : Nat} {st : BfsSt}
    (hl : sup.lookup ret = some (rp, ri)) (hst : st = bfsLoop provs sup (bfsFuel provs) (bfsInit rp))
    (hq : st.queue = []) (hc : detectCycles st.edges st.nodes.length = false) :
    graphOf provs sup ret =
      .ok { provs := provs, nodes := st.nodes, edges := st.edges, rev := st.rev, retNode := 0, retIdx := ri } := by
  rw [graphOf, hl]
  simp only [← hst, hq, hc, List.isEmpty_nil, Bool.not_true, Bool.false_eq_true, ↓reduceIte]
  rfl

theorem newGraph2_err_of_supplierMap_err {provs0 : List PSpec} {e : PlanErr} (ret : Nat)
    (h : supplierMap provs0 = .error e) : newGraph2 provs0 ret = .error e := by
  rw [newGraph2_factor, h]; rfl

/-- the struct providers, in declaration order (= the initial pending list of `pass2`) -/
def structsOf (provs : List PSpec) : List PSpec := provs.filter (·.kind == 1)

theorem mem_structsOf_iff {provs0 : List PSpec} {sp : PSpec} : sp ∈ structsOf provs0 ↔ sp ∈ provs0 ∧ sp.kind = 1 := by
  unfold structsOf
  rw [List.mem_filter]
  simp

theorem mem_structsOf {provs : List PSpec} {sp : PSpec} (h : sp ∈ provs) (hk : sp.kind = 1) : sp ∈ structsOf provs :=
  mem_structsOf_iff.mpr ⟨h, hk⟩

theorem supplierMap_cases (provs0 : List PSpec) :
    (∃ e, pass1 0 provs0 [] = .error e ∧ supplierMap provs0 = .error e) ∨
    (∃ sup1, pass1 0 provs0 [] = .ok sup1 ∧ supplierMap provs0 = pass2 (structsOf provs0) provs0 sup1) := by
  unfold supplierMap
  cases pass1 0 provs0 [] with
  | error e => exact Or.inl ⟨e, rfl, rfl⟩
  | ok sup1 => exact Or.inr ⟨sup1, rfl, rfl⟩

theorem supplierMap_ok {provs0 provs : List PSpec} {sup : SupMap} (h : supplierMap provs0 = .ok (provs, sup)) :
    ∃ sup1, pass1 0 provs0 [] = .ok sup1 ∧ pass2 (structsOf provs0) provs0 sup1 = .ok (provs, sup) := by
  rcases supplierMap_cases provs0 with ⟨e, _, he⟩ | ⟨sup1, h1, h2⟩
  · rw [he] at h; cases h
  · exact ⟨sup1, h1, h2 ▸ h⟩

theorem supplierMap_closed {provs0 provs : List PSpec} {sup : SupMap} (h : supplierMap provs0 = .ok (provs, sup)) :
    ∃ sup1 ord, pass1 0 provs0 [] = .ok sup1 ∧ ord.Perm (structsOf provs0) ∧
      provs = provs0 ++ fieldProvsOf ord ∧ sup = sup1 ++ keyEntries provs0.length (allFieldTys ord) := by
  obtain ⟨sup1, h1, h2⟩ := supplierMap_ok h
  obtain ⟨ord, hp, _, _, hr⟩ := pass2_closed h2
  exact ⟨sup1, ord, h1, hp, (Prod.mk.inj hr).1, (Prod.mk.inj hr).2⟩

theorem supplierMap_supOK {provs0 provs : List PSpec} {sup : SupMap} (h : supplierMap provs0 = .ok (provs, sup)) :
    SupOK provs sup := by
  obtain ⟨sup1, h1, h2⟩ := supplierMap_ok h
  exact pass2_ok _ (pass1_ok h1) h2

/-- type key `t` eventually has a supplier, at the level of the declaration (order-independent): a function
    provider lists it, or it is a field type of a `Struct` provider whose own struct type eventually has a supplier.
    (`Struct[8]{x:5}`, `Struct[5]{y:6}` with a function returning 8: the keys 8, 5 and 6 are sourced.) -/
inductive Sourced (provs : List PSpec) : Nat → Prop
  | fn {t : Nat} (q : PSpec) (hq : q ∈ provs) (hk : q.kind ≠ 1) (hl : Lists q t) : Sourced provs t
  | field {t : Nat} (sp : PSpec) (hsp : sp ∈ provs) (hk : sp.kind = 1) (hs : Sourced provs sp.structTy)
      (ht : t ∈ fieldTys sp) : Sourced provs t

theorem sourced_iff_avail {provs : List PSpec} {sup1 : SupMap} (h1 : pass1 0 provs [] = .ok sup1) (t : Nat) :
    Sourced provs t ↔ Avail sup1 (structsOf provs) t := by
  constructor
  · intro h
    induction h with
    | fn q hq hk hl => exact .base fun hn => (pass1_lookup_eq_none_iff h1).mp hn q hq hk hl
    | field sp hsp hk _ ht ih => exact .field sp (mem_structsOf hsp hk) ih ht
  · intro h
    induction h with
    | base hb =>
      exact Classical.byContradiction fun hc => hb ((pass1_lookup_eq_none_iff h1).mpr fun q hq hk hl => hc (.fn q hq hk hl))
    | field sp hsp _ ht ih =>
      obtain ⟨h0, hk⟩ := mem_structsOf_iff.mp hsp
      exact .field sp h0 hk ih ht

/-- every struct expansion eventually has a source for its struct: a function provider lists the struct type, or
    it is a field of a struct provider that itself eventually has a source (whatever the declaration order) -/
def StructsSourced (provs : List PSpec) : Prop :=
  ∀ sp ∈ provs, sp.kind = 1 → Sourced provs sp.structTy

/-- the criterion of the planner before the repair — each struct type is listed by a function provider or is a
    field of a struct provider declared *earlier* — is a special case -/
theorem structsSourced_of_ordered {provs : List PSpec}
    (h : ∀ pre sp post, structsOf provs = pre ++ sp :: post →
      (∃ q ∈ provs, q.kind ≠ 1 ∧ Lists q sp.structTy) ∨ sp.structTy ∈ allFieldTys pre) :
    StructsSourced provs := by
  have key : ∀ sp ∈ structsOf provs, Sourced provs sp.structTy := by
    refine List.forall_mem_of_prefixes fun pre sp post hs hpre => ?_
    rcases h pre sp post hs with ⟨q, hq, hk, hl⟩ | hin
    · exact .fn q hq hk hl
    · obtain ⟨sp', hsp', ht⟩ := List.mem_flatMap.mp hin
      obtain ⟨h0, hk⟩ := mem_structsOf_iff.mp (show sp' ∈ structsOf provs by rw [hs]; exact List.mem_append_left _ hsp')
      exact .field sp' h0 hk (hpre sp' hsp') ht
  exact fun sp hsp hk => key sp (mem_structsOf hsp hk)

theorem supplierMap_err_cases {provs0 : List PSpec} {e : PlanErr} (h : supplierMap provs0 = .error e) :
    (∃ t, e = .dup t) ∨ ∃ sp ∈ provs0, sp.kind = 1 ∧ ¬ Sourced provs0 sp.structTy ∧ e = .orphan sp.structTy := by
  rcases supplierMap_cases provs0 with ⟨e1, h1, he⟩ | ⟨sup1, h1, h2⟩
  · rw [he] at h; cases h
    exact Or.inl (pass1_err h1)
  · rcases pass2_err _ (h2 ▸ h) with ⟨t, _, he, _⟩ | ⟨sp, hsp, he, hna⟩
    · exact Or.inl ⟨t, he⟩
    · obtain ⟨h0, hk⟩ := mem_structsOf_iff.mp hsp
      exact Or.inr ⟨sp, h0, hk, fun hc => hna ((sourced_iff_avail h1 _).mp hc), he⟩

/-- no type key has two suppliers, be they function providers (at different positions) or expanded struct fields -/
def UnambIdx (provs0 : List PSpec) : Prop :=
  (∀ (i j : Nat) (qi qj : PSpec) (t : Nat), provs0[i]? = some qi → provs0[j]? = some qj → qi.kind ≠ 1 → qj.kind ≠ 1 →
    Lists qi t → Lists qj t → i = j) ∧
  (allFieldTys (structsOf provs0)).Nodup ∧
  (∀ q ∈ provs0, q.kind ≠ 1 → ∀ t, Lists q t → t ∉ allFieldTys (structsOf provs0))

theorem supplierMap_isOk_iff {provs0 : List PSpec} :
    (∃ r, supplierMap provs0 = .ok r) ↔ (UnambIdx provs0 ∧ StructsSourced provs0) := by
  constructor
  · rintro ⟨⟨provs, sup⟩, h⟩
    obtain ⟨sup1, h1, h2⟩ := supplierMap_ok h
    obtain ⟨hnd, hdis, hav⟩ := (pass2_ok_iff _ _ _).mp ⟨_, h2⟩
    refine ⟨⟨pass1_isOk_iff.mp ⟨sup1, h1⟩, hnd, ?_⟩, ?_⟩
    · exact fun q hq hk t hl hc => (pass1_lookup_eq_none_iff h1).mp (hdis t hc) q hq hk hl
    · intro sp hsp hk
      exact (sourced_iff_avail h1 _).mpr (hav sp (mem_structsOf hsp hk))
  · rintro ⟨⟨hu, hnd, hdis⟩, hs⟩
    obtain ⟨sup1, h1⟩ := pass1_isOk_iff.mpr hu
    rcases supplierMap_cases provs0 with ⟨e, he, _⟩ | ⟨sup1', h1', h2⟩
    · rw [h1] at he; cases he
    · rw [h1] at h1'; cases h1'
      rw [h2]
      exact (pass2_ok_iff (structsOf provs0) provs0 sup1).mpr
        ⟨hnd, fun t ht => (pass1_lookup_eq_none_iff h1).mpr (fun q hq hk hl => hdis q hq hk t hl ht),
         fun sp hsp => (sourced_iff_avail h1 _).mp (hs sp (mem_structsOf_iff.mp hsp).1 (mem_structsOf_iff.mp hsp).2)⟩

/-- in a declaration with a supplier map every struct type is listed by a function provider or is a field of an expanded
    struct -/
theorem supplierMap_sourced' {provs0 provs : List PSpec} {sup : SupMap} (h : supplierMap provs0 = .ok (provs, sup))
    {sp : PSpec} (hsp : sp ∈ provs0) (hk : sp.kind = 1) :
    (∃ q ∈ provs0, q.kind ≠ 1 ∧ Lists q sp.structTy) ∨ sp.structTy ∈ allFieldTys (structsOf provs0) := by
  cases (supplierMap_isOk_iff.mp ⟨_, h⟩).2 sp hsp hk with
  | fn q hq hqk hl => exact Or.inl ⟨q, hq, hqk, hl⟩
  | field sp' hsp' hk' _ ht => exact Or.inr (mem_allFieldTys (mem_structsOf hsp' hk') ht)

/-- what a successful `supplierMap` looks like -/
structure SupSpec (provs0 provs : List PSpec) (sup : SupMap) : Prop where
  /-- the expanded list extends the declared one -/
  ext : ∃ extra, provs = provs0 ++ extra
  /-- a key listed by a function provider is supplied by it, as the first group listing it -/
  fn : ∀ k q t, provs0[k]? = some q → q.kind ≠ 1 → Lists q t → sup.lookup t = some (k, groupIdx t q.provides)
  /-- a field of an expanded struct is supplied by its field-access provider -/
  field : ∀ sp fname t, sp ∈ structsOf provs0 → (fname, t) ∈ sp.fields →
    ∃ idx, sup.lookup t = some (idx, 0) ∧ provs[idx]? = some (mkFieldProv sp.structTy sp.decl fname t)
  /-- nothing else is supplied -/
  none : ∀ t, (∀ q ∈ provs0, q.kind ≠ 1 → ¬ Lists q t) → t ∉ allFieldTys (structsOf provs0) → sup.lookup t = none
  structs : ∀ sp ∈ structsOf provs0, ∃ v, sup.lookup sp.structTy = some v
  nodup : (allFieldTys (structsOf provs0)).Nodup
  disj : ∀ q ∈ provs0, q.kind ≠ 1 → ∀ t, Lists q t → t ∉ allFieldTys (structsOf provs0)
  uniq : ∀ (i j : Nat) qi qj t, provs0[i]? = some qi → provs0[j]? = some qj → qi.kind ≠ 1 → qj.kind ≠ 1 →
    Lists qi t → Lists qj t → i = j

theorem SupSpec.getD_declared {provs0 provs : List PSpec} {sup : SupMap} (S : SupSpec provs0 provs sup) {k : Nat}
    {q : PSpec} (hk : provs0[k]? = some q) : provs.getD k default = q := by
  obtain ⟨extra, he⟩ := S.ext
  rw [he, List.getD_of_getElem? _ (List.getElem?_append_of_some _ hk)]

theorem supplierMap_spec {provs0 provs : List PSpec} {sup : SupMap} (h : supplierMap provs0 = .ok (provs, sup)) :
    SupSpec provs0 provs sup := by
  obtain ⟨sup1, h1, h2⟩ := supplierMap_ok h
  obtain ⟨⟨hu, hnd, hdis⟩, _⟩ := supplierMap_isOk_iff.mp ⟨_, h⟩
  obtain ⟨c1, _, c4⟩ := pass2_spec _ h2
  obtain ⟨_, ord, _, _, hr, _⟩ := supplierMap_closed h
  refine ⟨⟨fieldProvsOf ord, hr⟩, ?_, fun sp fname t hsp hf => pass2_field _ h2 hsp hf, ?_,
    pass2_structs _ h2, hnd, hdis, hu⟩
  · intro k q t hk hq hl
    exact c1 _ _ ((pass1_lookup_iff h1).mpr ⟨q, hk, hq, hl, rfl⟩)
  · intro t hnf hnot
    exact (c4 t).mpr ⟨(pass1_lookup_eq_none_iff h1).mpr hnf, hnot⟩

end KV
