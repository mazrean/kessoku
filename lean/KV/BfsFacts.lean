import KV.Suppliers
import KV.BfsProof
import KV.Closure
/-! What else the BFS of `NewGraph` keeps, and what its final state is: every edge comes from the supplier of the
    slot it feeds (`EProv`, `slot_wired`); every node but the root feeds an earlier node (`OutBack`) and is the
    registered node of its key or provider (`RegInv`); the root stays the node of the supplier of the requested key
    (`RootIs`).  `bfsLoop_facts` collects all invariants of the state the loop returns; `graphOf_cases` hands them to
    whoever has an accepted graph.  From them: a provider has a node iff the root's provider reaches it along "needs"
    (`bfs_nodes_reach`; that it has one node only needs acyclicity, `provider_node_inj` in KV/Calls.lean); the loop
    reads nothing of a provider but its `requires` (`bfsLoop_congr`). -/

/-! ## edge provenance (`EProv`) -/
namespace KV

def EProv (provs : List PSpec) (sup : SupMap) (st : BfsSt) : Prop :=
  ∀ n2 e, e ∈ st.edges.getD n2 [] →
    ∃ t, (reqOf provs st e.dst)[e.slot]? = some t ∧ ProvOK sup st n2 e.src t

theorem provOK_ext {sup : SupMap} {st st' : BfsSt} (hx : Ext st st') {n2 src t : Nat} (hn : n2 < st.nodes.length)
    (h : ProvOK sup st n2 src t) : ProvOK sup st' n2 src t := by
  unfold ProvOK at *; rw [hx.nodesKeep n2 hn]; exact h

theorem reqStep_prov {provs : List PSpec} {sup : SupMap} {st : BfsSt} {n1 i : Nat} (t : Nat)
    (h : BInv provs st (some (n1, i))) (hn1 : n1 ∈ st.visited) (hp : EProv provs sup st)
    (hreq : (reqOf provs st n1)[i]? = some t) : EProv provs sup (reqStep sup n1 i t st) := by
  have hext := reqStep_ext sup n1 i t st
  intro n2 e he
  rcases (mem_reqStep_edges h n1 i t).mp he with hold | ⟨rfl, rfl⟩
  · obtain ⟨t', ht', hpo⟩ := hp n2 e hold
    obtain ⟨hn2l, hdv, _, _⟩ := h.edgeOK n2 e hold
    exact ⟨t', by rw [reqOf_ext hext _ (h.vLt _ hdv)]; exact ht', provOK_ext hext hn2l hpo⟩
  · exact ⟨t, by rw [reqOf_ext hext _ (h.vLt n1 hn1)]; exact hreq, (pickNode_inv t h).2.2⟩

theorem bfsLoop_prov {provs : List PSpec} {sup : SupMap} (hsup : SupOK provs sup) (fuel : Nat) {st : BfsSt}
    (h : BInv provs st none) (hp : EProv provs sup st) : EProv provs sup (bfsLoop provs sup fuel st) :=
  (bfsLoop_preserve hsup (fun _ _ hp => hp) (fun t hb hn1 hreq hp => reqStep_prov t hb hn1 hp hreq) fuel h hp).2

theorem bfsInit_prov (provs : List PSpec) (sup : SupMap) (rp : Nat) : EProv provs sup (bfsInit rp) := by
  intro n2 e he
  rw [bfsInit_edges_getD] at he
  cases he

theorem EProv.consumer {provs : List PSpec} {sup : SupMap} {st : BfsSt} (hp : EProv provs sup st) {n : Nat} {e : Edge}
    (he : e ∈ st.edges.getD n []) :
    (st.nodes.getD e.dst default).isArg = false ∧
    ∃ t, t ∈ (provs.getD (st.nodes.getD e.dst default).prov default).requires ∧ ProvOK sup st n e.src t := by
  obtain ⟨t, ht, hpo⟩ := hp n e he
  obtain ⟨hna, htm⟩ := mem_requires_of_reqOf ht
  exact ⟨hna, t, htm, hpo⟩

/-- In a drained state `rev[m]` has an entry for each requirement of `m`; the edge behind entry `i` comes from the node
    standing for the `i`-th requirement key. -/
theorem slot_wired {provs : List PSpec} {sup : SupMap} {st : BfsSt} (h : BInv provs st none) (hp : EProv provs sup st)
    (hq : st.queue = []) {m i t : Nat} (hm : m < st.nodes.length) (ht : (reqOf provs st m)[i]? = some t) :
    ∃ d e, e ∈ st.edges.getD d [] ∧ e.dst = m ∧ e.slot = i ∧ d < st.nodes.length ∧ ProvOK sup st d e.src t := by
  have hi : i < (st.rev.getD m []).length := by
    rw [h.rev_length_of_drained hq hm, ← length_reqOf]; exact List.lt_length_of_getElem? ht
  obtain ⟨e, he, hed, hes⟩ := h.revOK m i _ (List.getElem?_eq_getElem hi)
  obtain ⟨t', ht', hpo⟩ := hp _ e he
  rw [hed, hes, ht] at ht'
  cases ht'
  exact ⟨_, e, he, hed, hes, (h.edgeOK _ e he).1, hpo⟩

/-! ## every node but the root feeds an earlier node -/

def OutBack (st : BfsSt) : Prop :=
  ∀ n, 0 < n → n < st.nodes.length → ∃ e, e ∈ st.edges.getD n [] ∧ e.dst < n

theorem reqStep_outBack {provs : List PSpec} {sup : SupMap} {st : BfsSt} {n1 i : Nat} (t : Nat)
    (h : BInv provs st (some (n1, i))) (hn1 : n1 ∈ st.visited) (ho : OutBack st) : OutBack (reqStep sup n1 i t st) := by
  have hold : ∀ n, 0 < n → n < st.nodes.length → ∃ e, e ∈ (reqStep sup n1 i t st).edges.getD n [] ∧ e.dst < n :=
    fun n hn0 hnl => (ho n hn0 hnl).imp fun e he => ⟨(mem_reqStep_edges h n1 i t).mpr (Or.inl he.1), he.2⟩
  intro n hn0 hnl
  change n < (pickNode sup t st).1.nodes.length at hnl
  rcases pickNode_nodes_cases sup t st with ⟨hnodes, _⟩ | ⟨nd, hnodes, _, hidx⟩
  · exact hold n hn0 (hnodes ▸ hnl)
  · rw [hnodes, List.length_append, List.length_singleton] at hnl
    rcases Nat.lt_succ_iff_lt_or_eq.mp hnl with hlt | rfl
    · exact hold n hn0 hlt
    · -- the fresh node feeds `n1`, which was there before
      exact ⟨_, (mem_reqStep_edges h n1 i t).mpr (Or.inr ⟨rfl, hidx.symm⟩), h.vLt n1 hn1⟩

theorem bfsLoop_outBack {provs : List PSpec} {sup : SupMap} (hsup : SupOK provs sup) (fuel : Nat) {st : BfsSt}
    (h : BInv provs st none) (ho : OutBack st) : OutBack (bfsLoop provs sup fuel st) :=
  (bfsLoop_preserve hsup (fun _ _ ho => ho) (fun t hb hn1 _ ho => reqStep_outBack t hb hn1 ho) fuel h ho).2

theorem bfsInit_outBack (rp : Nat) : OutBack (bfsInit rp) :=
  fun _ h0 hl => absurd hl (Nat.not_lt.mpr h0)

/-! ## every node but the root is registered -/

/-- what a node is registered under: the provider it calls, or the type key of the argument it stands for -/
def nodeKey (nd : Node) : Nat ⊕ Nat := if nd.isArg then .inr nd.ty else .inl nd.prov

/-- the two registries of `pickNode`, as one table -/
def regOf (st : BfsSt) : Nat ⊕ Nat → Option Nat
  | .inl p => st.provNode.lookup p
  | .inr t => st.argNode.lookup t

/-- `pickNode` registers a node as it creates it; the root is created unregistered by `bfsInit` -/
def RegInv (st : BfsSt) : Prop :=
  ∀ n, 0 < n → n < st.nodes.length → regOf st (nodeKey (st.nodes.getD n default)) = some n

/-- one node per key, the root aside -/
theorem RegInv.key_inj {st : BfsSt} (h : RegInv st) {n n' : Nat} (h0 : 0 < n) (h0' : 0 < n') (hn : n < st.nodes.length)
    (hn' : n' < st.nodes.length) (e : nodeKey (st.nodes.getD n default) = nodeKey (st.nodes.getD n' default)) : n = n' :=
  Option.some.inj ((h n h0 hn).symm.trans (e ▸ h n' h0' hn'))

theorem pickNode_regInv (sup : SupMap) (t : Nat) {st : BfsSt} (h : RegInv st) : RegInv (pickNode sup t st).1 := by
  -- a state with `nd` appended and the registries extended by `a`, `b`, where `nd` is registered
  have key : ∀ (nd : Node) (a b : List (Nat × Nat)) (st' : BfsSt), st'.nodes = st.nodes ++ [nd] →
      st'.provNode = st.provNode ++ a → st'.argNode = st.argNode ++ b →
      regOf st' (nodeKey nd) = some st.nodes.length → RegInv st' := by
    intro nd a b st' hn hp ha hnd n hn0 hnl
    rw [hn, List.length_append, List.length_singleton] at hnl
    rw [hn]
    rcases Nat.lt_succ_iff_lt_or_eq.mp hnl with hlt | rfl
    · have := h n hn0 hlt
      rw [List.getD_append_left default hlt]
      cases hk : nodeKey (st.nodes.getD n default) <;> rw [hk] at this
      · exact (congrArg (List.lookup _) hp).trans (List.lookup_append_of_some _ this)
      · exact (congrArg (List.lookup _) ha).trans (List.lookup_append_of_some _ this)
    · rw [List.getD_concat_length]; exact hnd
  rcases pickNode_cases sup t st with ⟨p, gi, _, ⟨n2, _, heq⟩ | ⟨hr, heq⟩⟩ | ⟨_, ⟨n2, _, heq⟩ | ⟨hr, heq⟩⟩ <;> rw [heq]
  · exact h
  · exact key _ [(p, st.nodes.length)] [] _ rfl rfl (List.append_nil _).symm (List.lookup_concat_self hr)
  · exact h
  · exact key _ [] [(t, st.nodes.length)] _ rfl (List.append_nil _).symm rfl (List.lookup_concat_self hr)

theorem bfsLoop_regInv (provs : List PSpec) (sup : SupMap) (fuel : Nat) {st : BfsSt} (h : RegInv st) :
    RegInv (bfsLoop provs sup fuel st) :=
  bfsLoop_keeps (Q := RegInv) (fun _ _ h => h) (fun _ _ t h => pickNode_regInv sup t h) fuel h

theorem bfsInit_regInv (rp : Nat) : RegInv (bfsInit rp) :=
  fun _ h0 hl => absurd hl (Nat.not_lt.mpr h0)

/-! ## the root -/

def RootIs (nd : Node) (st : BfsSt) : Prop := 0 < st.nodes.length ∧ st.nodes.getD 0 default = nd

theorem RootIs.mono {nd : Node} {st st' : BfsSt} (h : RootIs nd st) (hp : st.nodes <+: st'.nodes) : RootIs nd st' := by
  obtain ⟨r, hr⟩ := hp
  rw [RootIs, ← hr, List.getD_append_left default h.1]
  exact ⟨Nat.lt_of_lt_of_le h.1 (by simp), h.2⟩

theorem bfsLoop_rootIs (provs : List PSpec) (sup : SupMap) (fuel rp : Nat) :
    RootIs { isArg := false, prov := rp } (bfsLoop provs sup fuel (bfsInit rp)) :=
  RootIs.mono (st := bfsInit rp) ⟨Nat.one_pos, rfl⟩ (bfsLoop_nodes_prefix provs sup fuel (bfsInit rp))

/-! ## the state the loop returns -/

structure BfsFacts (provs : List PSpec) (sup : SupMap) (rp : Nat) (st : BfsSt) : Prop where
  inv : BInv provs st none
  prov : EProv provs sup st
  outBack : OutBack st
  reg : RegInv st
  root : RootIs { isArg := false, prov := rp } st

theorem bfsLoop_facts {provs : List PSpec} {sup : SupMap} (hsup : SupOK provs sup) (rp fuel : Nat) :
    BfsFacts provs sup rp (bfsLoop provs sup fuel (bfsInit rp)) :=
  have h0 := bfsInit_inv provs rp
  ⟨bfsLoop_inv hsup fuel h0, bfsLoop_prov hsup fuel h0 (bfsInit_prov provs sup rp),
   bfsLoop_outBack hsup fuel h0 (bfsInit_outBack rp), bfsLoop_regInv provs sup fuel (bfsInit_regInv rp),
   bfsLoop_rootIs provs sup fuel rp⟩

/-- what `graphOf` returns: the single argument node when nobody supplies `ret`, else the drained final state of the
    BFS from the supplier of `ret` -/
theorem graphOf_cases {provs : List PSpec} {sup : SupMap} (hsup : SupOK provs sup) {ret : Nat} {g : Graph}
    (hg : graphOf provs sup ret = .ok g) :
    (sup.lookup ret = none ∧
      g = { provs := provs, nodes := [{ isArg := true, ty := ret }], edges := [[]], rev := [[]],
            retNode := 0, retIdx := 0 }) ∨
    ∃ rp ri st, sup.lookup ret = some (rp, ri) ∧ st = bfsLoop provs sup (bfsFuel provs) (bfsInit rp) ∧
      BfsFacts provs sup rp st ∧ st.queue = [] ∧
      g = { provs := provs, nodes := st.nodes, edges := st.edges, rev := st.rev, retNode := 0, retIdx := ri } := by
  rcases graphOf_ok hg with h | ⟨rp, ri, st, hl, rfl, hq, _, rfl⟩
  · exact Or.inl h
  · exact Or.inr ⟨rp, ri, _, hl, rfl, bfsLoop_facts hsup rp _, hq, rfl⟩

theorem graphOf_outBack {provs : List PSpec} {sup : SupMap} (hsup : SupOK provs sup) {ret : Nat} {g : Graph}
    (hg : graphOf provs sup ret = .ok g) :
    g.retNode = 0 ∧ ∀ n, 0 < n → n < g.nodes.length → ∃ e, e ∈ g.edges.getD n [] ∧ e.dst < n := by
  rcases graphOf_cases hsup hg with ⟨_, rfl⟩ | ⟨rp, ri, st, _, _, hf, _, rfl⟩
  · exact ⟨rfl, fun n h0 hl => absurd hl (Nat.not_lt.mpr h0)⟩
  · exact ⟨rfl, hf.outBack⟩

/-! ## the supplier relation on (expanded) providers, and the provider nodes -/

/-- provider `q` directly needs provider `q'`: it requires a type key whose supplier is `q'` -/
def Needs (provs : List PSpec) (sup : SupMap) (q q' : Nat) : Prop :=
  ∃ t, t ∈ (provs.getD q default).requires ∧ ∃ gi, sup.lookup t = some (q', gi)

def IsNodeOf (st : BfsSt) (n q : Nat) : Prop :=
  n < st.nodes.length ∧ (st.nodes.getD n default).isArg = false ∧ (st.nodes.getD n default).prov = q

theorem EProv.needs {provs : List PSpec} {sup : SupMap} {st : BfsSt} (hp : EProv provs sup st) {d : Nat} {e : Edge}
    (he : e ∈ st.edges.getD d []) :
    (st.nodes.getD e.dst default).isArg = false ∧
    ((st.nodes.getD d default).isArg = false →
      Needs provs sup (st.nodes.getD e.dst default).prov (st.nodes.getD d default).prov) := by
  obtain ⟨hna, t, htm, hpo⟩ := hp.consumer he
  refine ⟨hna, fun hda => ?_⟩
  rcases hpo with ⟨p, gi, hls, _, hpp, _⟩ | ⟨_, hia, _, _⟩
  · exact ⟨t, htm, gi, by rw [hpp]; exact hls⟩
  · rw [hda] at hia; cases hia

theorem needs_edge {provs : List PSpec} {sup : SupMap} {st : BfsSt}
    (h : BInv provs st none) (hp : EProv provs sup st) (hq : st.queue = [])
    {m q q' : Nat} (hm : IsNodeOf st m q) (hn : Needs provs sup q q') :
    ∃ d e, e ∈ st.edges.getD d [] ∧ e.dst = m ∧ IsNodeOf st d q' := by
  obtain ⟨hml, hna, hprov⟩ := hm
  obtain ⟨t, ht, gi, hl⟩ := hn
  rw [← hprov, ← reqOf_spec provs st m hna] at ht
  obtain ⟨i, hi⟩ := List.getElem?_of_mem ht
  obtain ⟨d, e, he, hed, _, hdl, hpo⟩ := slot_wired h hp hq hml hi
  rcases hpo with ⟨p, gi', hls, hia, hpr, _⟩ | ⟨hnone, _⟩
  · rw [hl] at hls; cases hls
    exact ⟨d, e, he, hed, hdl, hia, hpr⟩
  · rw [hl] at hnone; cases hnone

theorem BfsFacts.earlier_needs {provs : List PSpec} {sup : SupMap} {rp : Nat} {st : BfsSt} (hf : BfsFacts provs sup rp st)
    {n : Nat} (h0 : 0 < n) (hn : n < st.nodes.length) (hna : (st.nodes.getD n default).isArg = false) :
    ∃ m, m < n ∧ IsNodeOf st m (st.nodes.getD m default).prov ∧
      Needs provs sup (st.nodes.getD m default).prov (st.nodes.getD n default).prov := by
  obtain ⟨e, he, hlt⟩ := hf.outBack n h0 hn
  obtain ⟨hdna, hneeds⟩ := hf.prov.needs he
  exact ⟨e.dst, hlt, ⟨hf.inv.dst_lt he, hdna, rfl⟩, hneeds hna⟩

theorem bfs_node_reach {provs : List PSpec} {sup : SupMap} {rp : Nat} {st : BfsSt} (hf : BfsFacts provs sup rp st) (n : Nat) :
    n < st.nodes.length → (st.nodes.getD n default).isArg = false →
      Reach (Needs provs sup) rp (st.nodes.getD n default).prov := by
  induction n using Nat.strongRecOn with
  | _ n ih =>
    intro hn hna
    rcases Nat.eq_zero_or_pos n with rfl | h0
    · rw [hf.root.2]; exact Reach.refl rp
    · obtain ⟨m, hlt, ⟨hm, hma, _⟩, hneeds⟩ := hf.earlier_needs h0 hn hna
      exact Reach.tail (ih m hlt hm hma) hneeds

theorem bfs_nonroot_needs {provs : List PSpec} {sup : SupMap} {rp : Nat} {st : BfsSt} (hf : BfsFacts provs sup rp st)
    (n : Nat) (h0 : 0 < n) (hn : n < st.nodes.length) (hna : (st.nodes.getD n default).isArg = false) :
    Relation.TransGen (Needs provs sup) rp (st.nodes.getD n default).prov := by
  obtain ⟨m, _, ⟨hm, hma, _⟩, hneeds⟩ := hf.earlier_needs h0 hn hna
  exact (bfs_node_reach hf m hm hma).transGen_tail hneeds

theorem bfs_nodes_reach {provs : List PSpec} {sup : SupMap} {rp : Nat} {st : BfsSt} (hf : BfsFacts provs sup rp st)
    (hq : st.queue = []) (q : Nat) : (∃ n, IsNodeOf st n q) ↔ Reach (Needs provs sup) rp q := by
  constructor
  · rintro ⟨n, hn, hna, rfl⟩
    exact bfs_node_reach hf n hn hna
  · intro hr
    induction hr with
    | refl => exact ⟨0, hf.root.1, by rw [hf.root.2], by rw [hf.root.2]⟩
    | tail _ hn ih =>
      obtain ⟨m, hm⟩ := ih
      obtain ⟨d, _, _, _, hd⟩ := needs_edge hf.inv hf.prov hq hm hn
      exact ⟨d, hd⟩

/-- one node per provider, unless the root's provider needs itself: the other nodes are memoised (`provNode`), and a
    second node of the root's provider would put it on a cycle -/
theorem BfsFacts.node_inj {provs : List PSpec} {sup : SupMap} {rp : Nat} {st : BfsSt} (hf : BfsFacts provs sup rp st)
    (hacyc : ¬ Relation.TransGen (Needs provs sup) rp rp) {n n' : Nat} (hn : n < st.nodes.length)
    (hn' : n' < st.nodes.length) (hna : (st.nodes.getD n default).isArg = false)
    (hna' : (st.nodes.getD n' default).isArg = false)
    (hpq : (st.nodes.getD n default).prov = (st.nodes.getD n' default).prov) : n = n' := by
  have hroot : ∀ m, m < st.nodes.length → (st.nodes.getD m default).isArg = false →
      (st.nodes.getD m default).prov = rp → m = 0 := fun m hm hma hmp =>
    Decidable.by_contra fun h0 => hacyc (hmp ▸ bfs_nonroot_needs hf m (Nat.pos_of_ne_zero h0) hm hma)
  by_cases h0 : n = 0
  · rw [h0]; exact (hroot n' hn' hna' (by rw [← hpq, h0, hf.root.2])).symm
  · have h0' : n' ≠ 0 := fun e => h0 (hroot n hn hna (by rw [hpq, e, hf.root.2]))
    exact hf.reg.key_inj (Nat.pos_of_ne_zero h0) (Nat.pos_of_ne_zero h0') hn hn'
      (by rw [nodeKey, nodeKey, hna, hna', hpq]; rfl)

/-! ## the BFS reads only the `requires` of the providers -/

theorem bfsRequires_provs (provs provs' : List PSpec) (sup : SupMap) (n1 : Nat) (ts : List Nat) :
    ∀ (i : Nat) (st : BfsSt), bfsRequires provs sup n1 i ts st = bfsRequires provs' sup n1 i ts st := by
  induction ts with
  | nil => intro i st; rfl
  | cons t ts ih => intro i st; rw [bfsRequires_cons, bfsRequires_cons]; exact ih _ _

theorem bfsLoop_congr {provs provs' : List PSpec}
    (h : ∀ p, (provs'.getD p default).requires = (provs.getD p default).requires) (sup : SupMap) (fuel : Nat) :
    ∀ st : BfsSt, bfsLoop provs' sup fuel st = bfsLoop provs sup fuel st := by
  induction fuel with
  | zero => intro st; rfl
  | succ k ih =>
    intro st
    simp only [bfsLoop, ih, h, bfsRequires_provs provs' provs]

/-! ## the argument nodes (`args_characterisation`) -/

/-- every node but the root feeds somebody; argument nodes are registered under their own key -/
structure AInv (st : BfsSt) : Prop where
  hasOut : ∀ n, 0 < n → n < st.nodes.length → st.edges.getD n [] ≠ []
  argReg : ∀ n, n < st.nodes.length → (st.nodes.getD n default).isArg = true →
    st.argNode.lookup (st.nodes.getD n default).ty = some n

theorem BfsFacts.ainv {provs : List PSpec} {sup : SupMap} {rp : Nat} {st : BfsSt} (hf : BfsFacts provs sup rp st) :
    AInv st where
  hasOut := fun n h0 hn => (hf.outBack n h0 hn).elim fun _ he => List.ne_nil_of_mem he.1
  argReg := by
    intro n hn hi
    have h0 : 0 < n := Nat.pos_of_ne_zero fun h0 => by rw [h0, hf.root.2] at hi; cases hi
    have := hf.reg n h0 hn
    rwa [nodeKey, if_pos hi] at this

/-- **C10 groundwork**: in a drained BFS state, argument nodes are exactly the unsupplied keys
    required by discovered providers, one node per key. -/
theorem args_characterisation {provs : List PSpec} {sup : SupMap} {st : BfsSt}
    (h : BInv provs st none) (hp : EProv provs sup st) (ha : AInv st) (hq : st.queue = [])
    (hroot : (st.nodes.getD 0 default).isArg = false) :
    (∀ n, n < st.nodes.length → (st.nodes.getD n default).isArg = true →
      sup.lookup (st.nodes.getD n default).ty = none ∧
      ∃ (m i : Nat), m < st.nodes.length ∧ (st.nodes.getD m default).isArg = false ∧
        (reqOf provs st m)[i]? = some (st.nodes.getD n default).ty) ∧
    (∀ m, m < st.nodes.length → (st.nodes.getD m default).isArg = false → ∀ t ∈ reqOf provs st m,
      sup.lookup t = none → ∃ n, n < st.nodes.length ∧ (st.nodes.getD n default).isArg = true ∧
        (st.nodes.getD n default).ty = t) ∧
    (∀ n n', n < st.nodes.length → n' < st.nodes.length → (st.nodes.getD n default).isArg = true →
      (st.nodes.getD n' default).isArg = true → (st.nodes.getD n default).ty = (st.nodes.getD n' default).ty → n = n') := by
  refine ⟨?_, ?_, ?_⟩
  · intro n hn hi
    have hn0 : 0 < n := Nat.pos_of_ne_zero fun h0 => by rw [h0, hroot] at hi; cases hi
    obtain ⟨e, he⟩ := List.exists_mem_of_ne_nil _ (ha.hasOut n hn0 hn)
    obtain ⟨t, ht, hpo⟩ := hp n e he
    rcases hpo with ⟨p, gi, _, hna, _, _⟩ | ⟨hl, _, hty, _⟩
    · rw [hi] at hna; cases hna
    · rw [hty]
      exact ⟨hl, e.dst, e.slot, h.dst_lt he, (mem_requires_of_reqOf ht).1, ht⟩
  · intro m hm _ t ht hl
    obtain ⟨i, hi⟩ := List.getElem?_of_mem ht
    obtain ⟨d, e, _, _, _, hdl, hpo⟩ := slot_wired h hp hq hm hi
    rcases hpo with ⟨p, gi, hls, _⟩ | ⟨_, hia, hty, _⟩
    · rw [hl] at hls; cases hls
    · exact ⟨d, hdl, hia, hty⟩
  · intro n n' hn hn' hi hi' hty
    have h1 := ha.argReg n hn hi
    rw [hty, ha.argReg n' hn' hi'] at h1
    exact (Option.some.inj h1).symm

end KV
