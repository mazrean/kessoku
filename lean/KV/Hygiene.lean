import KV.CallsValue
/-! # Structural hygiene of the emitted function: declared ⇒ used (for C04)

The real generator declares `var x T` for every result parameter whose name is not `_` (model: `refs ≠ 0`,
see `dumpCallE`) and `xCh := make(chan struct{})` for every parameter with `withChan`.  Go rejects a local that is
declared and not used, so this file relates the two counters set in the second pass of `Build`
(`p2Edge`, KV/Plan2.lean; counted exactly by `P2Cnt`, KV/Pass2.lean) to the ops of the emitted program `emitted p`. -/
namespace KV

/-- the (producer node, edge) pairs of the planned graph whose source result variable is `v`:
    each is one (consumer node `e.dst`, slot `e.slot`) reading `v` -/
def wiredTo (p : PlanOut) (v : Nat) : List (Nat × Edge) :=
  (edgePairs p.g (topoOrder p.g)).filter (fun x => (p.b.nodeRets.getD x.1 []).getD x.2.src 0 == v)

theorem mem_wiredTo {p : PlanOut} {v n : Nat} {e : Edge} :
    (n, e) ∈ wiredTo p v ↔
      n ∈ topoOrder p.g ∧ e ∈ p.g.edges.getD n [] ∧ (p.b.nodeRets.getD n []).getD e.src 0 = v := by
  rw [wiredTo, List.mem_filter, mem_edgePairs, beq_iff_eq, and_assoc]

section
variable {provs : List PSpec} {ret : Nat} {p : PlanOut}

/-- **`refs` is exactly the number of readers**: the (consumer, slot) pairs wired to `v`, plus the `return`. -/
theorem refs_eq_count (h : plan provs ret = .ok p) {v : Nat} (hv : v < p.b.params.length) :
    (p.b.params.getD v default).refs = (if v = p.b.retParam then 1 else 0) + (wiredTo p v).length := by
  have hp := plan_all h
  have hv1 : v < (st1Of p.g).params.length := (hp.params_fields v).1 ▸ hv
  have hcnt := (bpass2_cnt p.g (topoOrder p.g) (st1Of p.g) (params0Of p.g)).refs v
    (by rw [params0Of_length]; exact hv1)
  rw [params0Of_refs p.g v hv1] at hcnt
  rw [hp.params, hp.retParam, wiredTo, hp.nodeRets, ← List.countP_eq_length_filter]
  exact hcnt

theorem consumer_emitted (hp : PlanAll p) {n : Nat} {e : Edge}
    (hn : n ∈ topoOrder p.g) (he : e ∈ p.g.edges.getD n []) :
    ∃ t v, e.dst ∈ tnodes p t ∧ (p.b.nodeRets.getD n [])[e.src]? = some v ∧
      ({ param := v, isWait := shouldWaitB (st1Of p.g) n e.dst } : CallArg) ∈ p.b.nodeArgs.getD e.dst [] := by
  obtain ⟨t, ht⟩ := hp.mem_thread_iff.mpr (hp.gwf.toGWF.edge_dst_provider he)
  obtain ⟨v, hv, hs⟩ := hp.edge_slot hn he
  exact ⟨t, v, ht, hv, List.mem_of_getElem? hs⟩

/-- the arguments of an emitted call, by entries of `nodeArgs` -/
theorem enter_args_entries {t m : Nat} {args : List Nat} (hen : T1.Op.enter m args ∈ T1.thread (emitted p) t) :
    args = (p.b.nodeArgs.getD m []).map (·.param) :=
  (enter_mem_emitted.mp hen).2

theorem read_of_edge (hp : PlanAll p) {n : Nat} {e : Edge}
    (hn : n ∈ topoOrder p.g) (he : e ∈ p.g.edges.getD n []) :
    ∃ t args v, T1.Op.enter e.dst args ∈ T1.thread (emitted p) t ∧
      (p.b.nodeRets.getD n [])[e.src]? = some v ∧ v ∈ args := by
  obtain ⟨t, v, ht, hv, ha⟩ := consumer_emitted hp hn he
  exact ⟨t, _, v, enter_mem_emitted.mpr ⟨ht, rfl⟩, hv, List.mem_map.mpr ⟨_, ha, rfl⟩⟩

theorem edge_of_read (h : plan provs ret = .ok p) {t m v : Nat} {args : List Nat}
    (hen : T1.Op.enter m args ∈ T1.thread (emitted p) t) (hv : v ∈ args) :
    v < p.b.params.length ∧ ∃ n e, (n, e) ∈ wiredTo p v ∧ e.dst = m := by
  obtain ⟨i, hi⟩ := List.mem_iff_getElem?.mp hv
  obtain ⟨n, e, hno, _, he, hed, _, hsrc⟩ := (enter_args_wired h hen).2.2 i v hi
  exact ⟨((plan_all h).rets_param (List.mem_of_getElem? hsrc)).1, n, e,
    mem_wiredTo.mpr ⟨hno, he, List.getD_of_getElem? 0 hsrc⟩, hed⟩

theorem retParam_lt (h : plan provs ret = .ok p) : p.b.retParam < p.b.params.length :=
  ((plan_all h).rets_param (List.mem_of_getElem? (ret_var_wired h).2.2)).1

/-- **Declared ⇒ used, and `_` ⇒ unused.**  A parameter has `refs ≠ 0` iff some emitted call takes it as an
    argument or it is the returned parameter (`ret v` of the main thread). -/
theorem refs_ne_zero_iff (h : plan provs ret = .ok p) (v : Nat) :
    (p.b.params.getD v default).refs ≠ 0 ↔
      ((∃ t o args, T1.Op.enter o args ∈ T1.thread (emitted p) t ∧ v ∈ args) ∨
        T1.Op.ret v ∈ T1.thread (emitted p) 0) := by
  rw [ret_mem_emitted]
  constructor
  · intro hne
    have hv : v < p.b.params.length := Nat.lt_of_not_le fun hc => hne (by rw [List.getD_eq_default _ hc]; rfl)
    rw [refs_eq_count h hv] at hne
    by_cases hr : v = p.b.retParam
    · exact Or.inr hr
    · -- not returned: some edge is wired to `v`, and its consumer is an emitted call
      rw [if_neg hr, Nat.zero_add] at hne
      obtain ⟨⟨n, e⟩, hx⟩ := List.exists_mem_of_length_pos (Nat.pos_of_ne_zero hne)
      obtain ⟨hn, he, hxv⟩ := mem_wiredTo.mp hx
      obtain ⟨t, args, w, hen, hw, hmem⟩ := read_of_edge (plan_all h) hn he
      rw [List.getD_of_getElem? 0 hw] at hxv
      exact Or.inl ⟨t, _, args, hen, hxv ▸ hmem⟩
  · rintro (⟨t, o, args, hen, hv⟩ | hr)
    · obtain ⟨hlt, n, e, hx, _⟩ := edge_of_read h hen hv
      rw [refs_eq_count h hlt]
      have : 0 < (wiredTo p v).length := List.length_pos_of_mem hx
      omega
    · rw [refs_eq_count h (hr ▸ retParam_lt h), if_pos hr]
      omega

/-- **every argument of an emitted call is a declared thing**: an allocated parameter with `refs ≠ 0` -/
theorem call_args_declared (h : plan provs ret = .ok p) {t o v : Nat} {args : List Nat}
    (hen : T1.Op.enter o args ∈ T1.thread (emitted p) t) (hv : v ∈ args) :
    v < p.b.params.length ∧ (p.b.params.getD v default).refs ≠ 0 :=
  ⟨(edge_of_read h hen hv).1, (refs_ne_zero_iff h v).mpr (Or.inl ⟨t, o, args, hen, hv⟩)⟩

theorem chan_edge (hp : PlanAll p) {c : Nat} (hc : (p.b.params.getD c default).withChan = true) :
    ∃ n e, (n, e) ∈ wiredTo p c ∧ shouldWaitB (st1Of p.g) n e.dst = true := by
  rw [hp.params] at hc
  rcases (bpass2_cnt p.g (topoOrder p.g) (st1Of p.g) (params0Of p.g)).chanOnly c hc with h0 | ⟨⟨n, e⟩, hx, hxc, hsw⟩
  · -- no parameter has a channel before the second pass
    rw [(params0Of_fields p.g c).2.2, hp.p1.noChan c] at h0
    cases h0
  · exact ⟨n, e, mem_wiredTo.mpr ⟨(mem_edgePairs.mp hx).1, (mem_edgePairs.mp hx).2, by rw [hp.nodeRets]; exact hxc⟩, hsw⟩

/-- **a declared channel is received from**: `withChan c` ⇔ some emitted `wait _ c` exists -/
theorem withChan_iff_wait (h : plan provs ret = .ok p) (c : Nat) :
    (p.b.params.getD c default).withChan = true ↔ ∃ t o, T1.Op.wait o c ∈ T1.thread (emitted p) t := by
  constructor
  · intro hc
    have hp := plan_all h
    obtain ⟨n, e, hx, hsw⟩ := chan_edge hp hc
    obtain ⟨hn, he, hxv⟩ := mem_wiredTo.mp hx
    obtain ⟨t, v, ht, hv, ha⟩ := consumer_emitted hp hn he
    rw [List.getD_of_getElem? 0 hv] at hxv
    exact ⟨t, e.dst, wait_mem_emitted.mpr ⟨ht, hc, _, ha, hxv, hsw⟩⟩
  · rintro ⟨t, o, hw⟩
    exact (wait_mem_emitted.mp hw).2.1

/-- **a declared channel is closed**: `withChan c` ⇔ some emitted `close _ c` exists (by `C03_close_once` only one) -/
theorem withChan_iff_close (h : plan provs ret = .ok p) (c : Nat) :
    (p.b.params.getD c default).withChan = true ↔ ∃ t o, T1.Op.close o c ∈ T1.thread (emitted p) t := by
  constructor
  · intro hc
    obtain ⟨t, o, hw⟩ := (withChan_iff_wait h c).mp hc
    obtain ⟨t', o', hcl, _⟩ := (plan_wf h).1.waitClose t o c hw
    exact ⟨t', o', hcl⟩
  · rintro ⟨t, o, hcl⟩
    exact (close_mem_emitted.mp hcl).2.1

/-- **a channel is waited on only from another thread than the one closing it**: `withChan` means
    "some consumer *in another thread* waits". -/
theorem wait_other_thread (h : plan provs ret = .ok p) {t t' o o' c : Nat}
    (hw : T1.Op.wait o c ∈ T1.thread (emitted p) t) (hc : T1.Op.close o' c ∈ T1.thread (emitted p) t') :
    t ≠ t' := by
  have hp := plan_all h
  obtain ⟨hndw, hwc, a, ha, rfl, hwait⟩ := wait_mem_emitted.mp hw
  obtain ⟨hndc, _, hr⟩ := close_mem_emitted.mp hc
  obtain ⟨t'', n, hn, _, hv, hiff, _⟩ := hp.arg_producer hndw ha (hp.chan_not_arg hwc)
  -- the producer owns the variable, so it is the closing node, and the entry says "wait"
  obtain rfl : n = o' := (hp.rets_param hv).2.1.symm.trans (hp.rets_param hr).2.1
  obtain rfl := hp.thread_unique hn hndc
  exact (hiff.mp hwait).symm

/-- **the parameters flagged `isArg` are exactly the arguments of the injector's signature** (`b.args`) -/
theorem isArg_iff_mem_args (h : plan provs ret = .ok p) (v : Nat) :
    v ∈ p.b.args ↔ (v < p.b.params.length ∧ (p.b.params.getD v default).isArg = true) := by
  have hp := plan_all h
  obtain ⟨hl, _, ha⟩ := hp.params_fields v
  rw [hp.args, (st1Of_rec p.g).args v, hl, ha]

/-- **injector arguments are plain**: no completion channel, never written by an emitted op, nobody waits on
    or closes a channel of theirs -/
theorem arg_plain (h : plan provs ret = .ok p) {v : Nat} (hv : (p.b.params.getD v default).isArg = true) :
    (p.b.params.getD v default).withChan = false ∧
    (∀ t o rets, T1.Op.exit o rets ∈ T1.thread (emitted p) t → v ∉ rets) ∧
    (∀ t o, T1.Op.wait o v ∉ T1.thread (emitted p) t) ∧
    (∀ t o, T1.Op.close o v ∉ T1.thread (emitted p) t) := by
  have hp := plan_all h
  have hnc := hp.argNoChan v hv
  refine ⟨hnc, ?_, ?_, ?_⟩
  · exact fun t o rets hex hmem => exit_not_param h hex hmem hv
  · intro t o hw
    rw [(wait_mem_emitted.mp hw).2.1] at hnc; cases hnc
  · intro t o hc
    rw [(close_mem_emitted.mp hc).2.1] at hnc; cases hnc

/-- **every emitted call assigns at least one declared variable**: among the results of an emitted `exit` one has
    `refs ≠ 0` (Go rejects `_, _ := f()` — "no new variables on left side of :=") -/
theorem exit_some_used (h : plan provs ret = .ok p) {t o : Nat} {rets : List Nat}
    (hex : T1.Op.exit o rets ∈ T1.thread (emitted p) t) :
    ∃ v ∈ rets, (p.b.params.getD v default).refs ≠ 0 := by
  have hp := plan_all h
  obtain ⟨hnd, rfl⟩ := exit_mem_emitted.mp hex
  by_cases ho : o = 0
  · -- the return node: its result `retIdx` is returned
    obtain ⟨_, _, hr⟩ := ret_var_wired h
    rw [hp.ret0, ← ho] at hr
    exact ⟨p.b.retParam, List.mem_of_getElem? hr, (refs_ne_zero_iff h _).mpr (Or.inr ((ret_mem_emitted p _).mpr rfl))⟩
  · -- any other node was discovered from a consumer: it has an edge, whose consumer reads the result wired to it
    have hoo := (hp.thread_node hnd).1
    obtain ⟨e, he, _⟩ := hp.outBack o (Nat.pos_of_ne_zero ho) (hp.order_lt o hoo)
    obtain ⟨t', args, v, hen, hv, hmem⟩ := read_of_edge hp hoo he
    exact ⟨v, List.mem_of_getElem? hv, (refs_ne_zero_iff h v).mpr (Or.inl ⟨t', _, args, hen, hmem⟩)⟩

end

/-- `(isArg, refs, withChan)` of every parameter of the plan of a declaration -/
def paramFlags (provs0 : List PSpec) (ret : Nat) : Option (List (Bool × Nat × Bool)) :=
  match plan provs0 ret with
  | .ok p => some (p.b.params.map (fun q => (q.isArg, q.refs, q.withChan)))
  | .error _ => none

/-- a provider with two result groups of which only the first is requested: the second result has `refs = 0`
    (it is written `_` and not declared) -/
def twoResults : List PSpec := [ { provides := [[1], [2]], requires := [7] } ]

example : paramFlags twoResults 1 = some [(true, 1, false), (false, 1, false), (false, 0, false)] := by decide

/-- `diamondA` (KV/Calls.lean, two threads): two results are consumed in another thread and get a channel (one of
    them has two readers, `refs = 2`); the injector argument (type 9) and the results read in their own thread do not -/
example : paramFlags diamondA 1 =
    some [(true, 1, false), (false, 2, true), (false, 1, true), (false, 1, false), (false, 1, false)] := by decide +kernel

end KV
#print axioms KV.refs_eq_count
#print axioms KV.refs_ne_zero_iff
#print axioms KV.call_args_declared
#print axioms KV.withChan_iff_wait
#print axioms KV.withChan_iff_close
#print axioms KV.wait_other_thread
#print axioms KV.isArg_iff_mem_args
#print axioms KV.arg_plain
#print axioms KV.exit_some_used
