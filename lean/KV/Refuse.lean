import KV.PlanStages
/-! C09: a duplicate supplier, a clashing struct field, an orphan struct expansion and a reachable cycle of the
    supplier relation are refused by the planner model; the graph of an accepted declaration has no cycle. -/
namespace KV

theorem dup_refused {provs : List PSpec} {i j : Nat} {pi pj : PSpec} {t : Nat} (ret : Nat)
    (hij : i ≠ j) (hi : provs[i]? = some pi) (hj : provs[j]? = some pj)
    (hki : pi.kind ≠ 1) (hkj : pj.kind ≠ 1) (hti : Lists pi t) (htj : Lists pj t) :
    ∃ t', newGraph2 provs ret = .error (.dup t') := by
  rcases supplierMap_cases provs with ⟨e, h1, he⟩ | ⟨sup1, h1, _⟩
  · obtain ⟨t', rfl⟩ := pass1_err h1
    exact ⟨t', newGraph2_err_of_supplierMap_err ret he⟩
  · exact absurd (pass1_isOk_iff.mp ⟨sup1, h1⟩ i j pi pj t hi hj hki hkj hti htj) hij

/-- the error is one of the two declaration-level refusals of `NewGraph`'s first two passes -/
def DupOrOrphan (e : PlanErr) : Prop := (∃ t, e = .dup t) ∨ (∃ t, e = .orphan t)

/-- some expanded struct field has a type that already has another supplier:
    (a) a function provider lists it, (b) another field of the same struct has it,
    (c) a field of a different struct provider has it -/
inductive FieldClash (provs : List PSpec) : Prop
  | withFunction (sp : PSpec) (f : String × Nat) (q : PSpec)
      (hsp : sp ∈ provs) (hk : sp.kind = 1) (hf : f ∈ sp.fields)
      (hq : q ∈ provs) (hqk : q.kind ≠ 1) (hl : Lists q f.2)
  | sameStruct (sp : PSpec) (a b : Nat) (fa fb : String × Nat)
      (hsp : sp ∈ provs) (hk : sp.kind = 1) (hab : a ≠ b)
      (ha : sp.fields[a]? = some fa) (hb : sp.fields[b]? = some fb) (hty : fa.2 = fb.2)
  | twoStructs (i j : Nat) (s1 s2 : PSpec) (f1 f2 : String × Nat)
      (hij : i ≠ j) (hi : provs[i]? = some s1) (hj : provs[j]? = some s2)
      (hk1 : s1.kind = 1) (hk2 : s2.kind = 1) (hf1 : f1 ∈ s1.fields) (hf2 : f2 ∈ s2.fields) (hty : f1.2 = f2.2)

theorem not_unambIdx_of_clash {provs : List PSpec} (hc : FieldClash provs) : ¬ UnambIdx provs := by
  rintro ⟨_, hnd, hdis⟩
  -- the field types are duplicate-free within each struct provider and between any two of them
  obtain ⟨hin, hout⟩ := List.pairwise_flatMap.mp hnd
  cases hc with
  | withFunction sp f q hsp hk hf hq hqk hl =>
    exact hdis q hq hqk f.2 hl (mem_allFieldTys (mem_structsOf hsp hk) (mem_fieldTys hf))
  | sameStruct sp a b fa fb hsp hk hab ha hb hty =>
    have hnd' : (fieldTys sp).Nodup := hin sp (mem_structsOf hsp hk)
    refine hab (hnd'.eq_of_getElem? (a := fa.2) ?_ ?_)
    · simp only [fieldTys, List.getElem?_map, ha, Option.map_some]
    · simp only [fieldTys, List.getElem?_map, hb, Option.map_some, hty]
  | twoStructs i j s1 s2 f1 f2 hij hi hj hk1 hk2 hf1 hf2 hty =>
    refine hij ((List.pairwise_filter.mp hout).eq_of_getElem? hi hj ?_ ?_)
    · exact fun hR => hR (by simp [hk1]) (by simp [hk2]) f1.2 (mem_fieldTys hf1) f2.2 (mem_fieldTys hf2) hty
    · exact fun hR => hR (by simp [hk2]) (by simp [hk1]) f2.2 (mem_fieldTys hf2) f1.2 (mem_fieldTys hf1) hty.symm

theorem refused_of_not_ok {provs : List PSpec} (ret : Nat) (hn : ¬ (UnambIdx provs ∧ StructsSourced provs)) :
    ∃ e, newGraph2 provs ret = .error e ∧
      ((∃ t, e = .dup t) ∨ ∃ sp ∈ provs, sp.kind = 1 ∧ ¬ Sourced provs sp.structTy ∧ e = .orphan sp.structTy) := by
  cases h : supplierMap provs with
  | ok r => exact absurd (supplierMap_isOk_iff.mp ⟨r, h⟩) hn
  | error e => exact ⟨e, newGraph2_err_of_supplierMap_err ret h, supplierMap_err_cases h⟩

theorem field_dup_refused {provs : List PSpec} (ret : Nat) (hc : FieldClash provs) :
    ∃ e, newGraph2 provs ret = .error e ∧ DupOrOrphan e := by
  obtain ⟨e, he, hd | ⟨sp, _, _, _, ho⟩⟩ := refused_of_not_ok ret (fun h => not_unambIdx_of_clash hc h.1)
  · exact ⟨e, he, Or.inl hd⟩
  · exact ⟨e, he, Or.inr ⟨_, ho⟩⟩

theorem field_dup_refused_dup {provs : List PSpec} (ret : Nat) (hc : FieldClash provs) (hs : StructsSourced provs) :
    ∃ t, newGraph2 provs ret = .error (.dup t) := by
  obtain ⟨e, he, ⟨t, rfl⟩ | ⟨sp, hsp, hk, hns, _⟩⟩ := refused_of_not_ok ret (fun h => not_unambIdx_of_clash hc h.1)
  · exact ⟨t, he⟩
  · exact absurd (hs sp hsp hk) hns

theorem orphan_refused_unsourced {provs : List PSpec} {sp : PSpec} (ret : Nat)
    (hsp : sp ∈ provs) (hk : sp.kind = 1) (hns : ¬ Sourced provs sp.structTy) :
    ∃ e, newGraph2 provs ret = .error e ∧
      ((∃ sp' ∈ provs, sp'.kind = 1 ∧ ¬ Sourced provs sp'.structTy ∧ e = .orphan sp'.structTy) ∨ (∃ t, e = .dup t)) := by
  obtain ⟨e, he, hc⟩ := refused_of_not_ok ret (fun h => hns (h.2 sp hsp hk))
  exact ⟨e, he, hc.symm⟩

theorem orphan_refused {provs : List PSpec} {sp : PSpec} (ret : Nat)
    (hsp : sp ∈ provs) (hk : sp.kind = 1)
    (hnofun : ∀ q ∈ provs, q.kind ≠ 1 → ¬ Lists q sp.structTy)
    (hnofield : sp.structTy ∉ allFieldTys (structsOf provs)) :
    ∃ e, newGraph2 provs ret = .error e ∧
      ((∃ sp' ∈ provs, sp'.kind = 1 ∧ ¬ Sourced provs sp'.structTy ∧ e = .orphan sp'.structTy) ∨ (∃ t, e = .dup t)) := by
  apply orphan_refused_unsourced ret hsp hk
  intro hs
  cases hs with
  | fn q hq hqk hl => exact hnofun q hq hqk hl
  | field sp' hsp' hk' _ ht => exact hnofield (mem_allFieldTys (mem_structsOf hsp' hk') ht)

theorem accepted_edge_forward {provs : List PSpec} {ret : Nat} {p : PlanOut} (h : plan provs ret = .ok p)
    {n m : Nat} {e : Edge} (he : e ∈ p.g.edges.getD n []) (hm : e.dst = m) (hmo : m ∈ topoOrder p.g) :
    n ∈ topoOrder p.g ∧ (topoOrder p.g).idxOf n < (topoOrder p.g).idxOf m :=
  have hp := plan_all h
  edges_forward hp.gwf hp.order_sound hp.order_nodup he hm hmo

theorem PlanAll.path_forward {p : PlanOut} (hp : PlanAll p) {n m : Nat} (h : Path p.g n m) :
    (topoOrder p.g).idxOf n < (topoOrder p.g).idxOf m :=
  KV.path_forward hp.gwf hp.order_sound hp.order_nodup hp.allIn h

theorem accepted_acyclic {provs : List PSpec} {ret : Nat} {p : PlanOut} (h : plan provs ret = .ok p) (n : Nat) :
    ¬ Path p.g n n :=
  fun hp => Nat.lt_irrefl _ ((plan_all h).path_forward hp)

/-- list form of `accepted_acyclic`: there is no list of nodes `n₀, n₁, …, n_k` with `k ≥ 1`, `n_k = n₀`, in which
    each `n_{i+1}` is the `dst` of an edge in `p.g.edges.getD n_i []` -/
theorem accepted_acyclic_list {provs : List PSpec} {ret : Nat} {p : PlanOut} (h : plan provs ret = .ok p)
    (n0 : Nat) (l : List Nat) (hne : l ≠ []) (hw : IsWalk p.g (n0 :: l)) :
    (n0 :: l).getLast (by simp) ≠ n0 := by
  intro hc
  have hp := path_of_walk l n0 hne hw
  rw [hc] at hp
  exact accepted_acyclic h n0 hp

/-- a walk `a → … → b` of the built graph (producer to consumer) is a chain of needs from `b`'s provider back to
    `a`'s provider -/
theorem path_needs {provs : List PSpec} {sup : SupMap} {st : BfsSt} {g : Graph} (hge : g.edges = st.edges)
    (hp : EProv provs sup st) {a b : Nat} (hpath : Path g a b) :
    (st.nodes.getD b default).isArg = false ∧
    ((st.nodes.getD a default).isArg = false →
      Relation.TransGen (Needs provs sup) (st.nodes.getD b default).prov (st.nodes.getD a default).prov) := by
  induction hpath with
  | single e he hm =>
    obtain ⟨h1, h2⟩ := hp.needs (hge ▸ he)
    rw [hm] at h1 h2
    exact ⟨h1, fun ha => .single (h2 ha)⟩
  | cons e he hm _ ih =>
    obtain ⟨h1, h2⟩ := hp.needs (hge ▸ he)
    rw [hm] at h1 h2
    exact ⟨ih.1, fun ha => .tail (ih.2 h1) (h2 ha)⟩

/-- conversely, in a drained state a chain of needs from the provider of node `m` is walked backwards by the graph -/
theorem needs_path {provs : List PSpec} {sup : SupMap} {st : BfsSt} {g : Graph}
    (hge : g.edges = st.edges) (h : BInv provs st none) (hp : EProv provs sup st) (hq : st.queue = [])
    {m q q' : Nat} (hm : IsNodeOf st m q) (hn : Relation.TransGen (Needs provs sup) q q') :
    ∃ d, Path g d m ∧ IsNodeOf st d q' := by
  induction hn with
  | single hn =>
    obtain ⟨d, e, he, hed, hd⟩ := needs_edge h hp hq hm hn
    exact ⟨d, Path.single e (hge ▸ he) hed, hd⟩
  | tail _ hn ih =>
    obtain ⟨d1, hpath, hd1⟩ := ih
    obtain ⟨d, e, he, hed, hd⟩ := needs_edge h hp hq hd1 hn
    exact ⟨d, Path.cons e (hge ▸ he) hed hpath, hd⟩

/-- no provider that the supplier of the requested type of an accepted declaration reaches lies on a cycle of `Needs` -/
theorem accepted_needs_acyclic {provs0 provs : List PSpec} {sup : SupMap} {ret rp ri q : Nat} {p : PlanOut}
    (hpl : plan provs0 ret = .ok p) (hexp : supplierMap provs0 = .ok (provs, sup))
    (hret : sup.lookup ret = some (rp, ri)) (hreach : Reach (Needs provs sup) rp q) :
    ¬ Relation.TransGen (Needs provs sup) q q := by
  intro hcyc
  obtain ⟨rp', ri', st, hl, hf, hq, _, hge, _⟩ := plan_bfs hpl hexp
  obtain ⟨rfl, rfl⟩ := Prod.mk.inj (Option.some.inj (hl.symm.trans hret))
  -- a node of `q` is fed, along a walk, by another node of `q`, which is earlier in the Kahn order: no first one
  have key : ∀ k m, (topoOrder p.g).idxOf m = k → ¬ IsNodeOf st m q := by
    intro k
    induction k using Nat.strongRecOn with
    | _ k ih =>
      intro m hk hm
      obtain ⟨d, hpath, hd⟩ := needs_path hge hf.inv hf.prov hq hm hcyc
      exact ih _ (hk ▸ (plan_all hpl).path_forward hpath) d rfl hd
  obtain ⟨m0, hm0⟩ := (bfs_nodes_reach hf hq q).mpr hreach
  exact key _ m0 rfl hm0

theorem cycle_refused {provs0 : List PSpec} {ret : Nat} {provs : List PSpec} {sup : SupMap} {rp ri q : Nat}
    (hexp : expand provs0 = .ok (provs, sup)) (hret : sup.lookup ret = some (rp, ri))
    (hreach : Reach (Needs provs sup) rp q) (hcyc : Relation.TransGen (Needs provs sup) q q) :
    ∃ e, plan provs0 ret = .error e := by
  cases hpl : plan provs0 ret with
  | error e => exact ⟨e, rfl⟩
  | ok p => exact absurd hcyc (accepted_needs_acyclic hpl hexp hret hreach)

/-- declaration-level "needs" between declared providers: `q` requires a type key that function provider `q'`
    lists (as a result type or a bound interface) -/
def NeedsFn (provs0 : List PSpec) (q q' : Nat) : Prop :=
  ∃ pq pq' t, provs0[q]? = some pq ∧ provs0[q']? = some pq' ∧ pq'.kind ≠ 1 ∧ t ∈ pq.requires ∧ Lists pq' t

theorem needs_of_needsFn {provs0 provs : List PSpec} {sup : SupMap} (hexp : supplierMap provs0 = .ok (provs, sup))
    {q q' : Nat} (h : NeedsFn provs0 q q') : Needs provs sup q q' := by
  have S := supplierMap_spec hexp
  obtain ⟨pq, pq', t, hq, hq', hk, ht, hl⟩ := h
  exact ⟨t, by rw [S.getD_declared hq]; exact ht, _, S.fn q' pq' t hq' hk hl⟩

theorem cycle_refused_decl {provs0 : List PSpec} {ret rp q : Nat} {prp : PSpec}
    (hrp : provs0[rp]? = some prp) (hk : prp.kind ≠ 1) (hl : Lists prp ret)
    (hreach : Reach (NeedsFn provs0) rp q) (hcyc : Relation.TransGen (NeedsFn provs0) q q) :
    ∃ e, plan provs0 ret = .error e := by
  cases hexp : supplierMap provs0 with
  | error e => exact ⟨e, plan_err_of_newGraph2_err (newGraph2_err_of_supplierMap_err ret hexp)⟩
  | ok r =>
    exact cycle_refused (provs := r.1) (sup := r.2) hexp ((supplierMap_spec hexp).fn rp prp ret hrp hk hl)
      (hreach.mono fun _ _ => needs_of_needsFn hexp) (hcyc.mono fun _ _ => needs_of_needsFn hexp)

namespace RefuseExamples

/-- 1: two function providers of type 1 (the second one through a bound interface in a group) -/
def dupDecl : List PSpec := [{ provides := [[1]] }, { provides := [[2, 1]] }]

example : ∃ t', newGraph2 dupDecl 7 = .error (.dup t') :=
  dup_refused (i := 0) (j := 1) (t := 1) 7 (by decide) rfl rfl (by decide) (by decide)
    ⟨[1], .head _, .head _⟩ ⟨[2, 1], .head _, .tail _ (.head _)⟩
example : errOf (newGraph2 dupDecl 7) = some (.dup 1) := by decide

/-- 2a: field `A` of struct 5 has type 6, which function provider 1 supplies as well -/
def clashFnDecl : List PSpec :=
  [{ provides := [[5]] }, { provides := [[6]] }, { kind := 1, structTy := 5, fields := [("A", 6)] }]

theorem clashFn : FieldClash clashFnDecl :=
  .withFunction { kind := 1, structTy := 5, fields := [("A", 6)] } ("A", 6) { provides := [[6]] }
    (List.mem_of_getElem? (i := 2) rfl) rfl (.head _) (List.mem_of_getElem? (i := 1) rfl) (by decide)
    ⟨[6], .head _, .head _⟩

theorem clashFn_sourced : StructsSourced clashFnDecl := by
  intro sp hsp hk
  simp only [clashFnDecl, List.mem_cons, List.not_mem_nil, or_false] at hsp
  rcases hsp with rfl | rfl | rfl
  · cases hk
  · cases hk
  · exact .fn { provides := [[5]] } (.head _) (by decide) ⟨[5], .head _, .head _⟩

example : ∃ e, newGraph2 clashFnDecl 6 = .error e ∧ DupOrOrphan e := field_dup_refused 6 clashFn
example : ∃ t, newGraph2 clashFnDecl 6 = .error (.dup t) := field_dup_refused_dup 6 clashFn clashFn_sourced
example : errOf (newGraph2 clashFnDecl 6) = some (.dup 6) := by decide

/-- 2b: two fields of the same type in one struct -/
def clashSameDecl : List PSpec :=
  [{ provides := [[5]] }, { kind := 1, structTy := 5, fields := [("A", 6), ("B", 6)] }]

example : FieldClash clashSameDecl :=
  .sameStruct { kind := 1, structTy := 5, fields := [("A", 6), ("B", 6)] } 0 1 ("A", 6) ("B", 6)
    (List.mem_of_getElem? (i := 1) rfl) rfl (by decide) rfl rfl rfl
example : errOf (newGraph2 clashSameDecl 6) = some (.dup 6) := by decide

/-- 2c: two struct providers expanding a field of the same type -/
def clashTwoDecl : List PSpec :=
  [{ provides := [[5]] }, { provides := [[8]] }, { kind := 1, structTy := 5, fields := [("A", 6)] },
   { kind := 1, structTy := 8, fields := [("B", 6)] }]

example : FieldClash clashTwoDecl :=
  .twoStructs 2 3 { kind := 1, structTy := 5, fields := [("A", 6)] } { kind := 1, structTy := 8, fields := [("B", 6)] }
    ("A", 6) ("B", 6) (by decide) rfl rfl rfl rfl (.head _) (.head _) rfl
example : errOf (newGraph2 clashTwoDecl 6) = some (.dup 6) := by decide

/-- 3: a struct expansion of struct type 5 that nobody supplies -/
def orphanDecl : List PSpec := [{ provides := [[4]] }, { kind := 1, structTy := 5, fields := [("A", 6)] }]

example : ∃ e, newGraph2 orphanDecl 6 = .error e ∧
    ((∃ sp' ∈ orphanDecl, sp'.kind = 1 ∧ ¬ Sourced orphanDecl sp'.structTy ∧ e = .orphan sp'.structTy) ∨
      (∃ t, e = .dup t)) :=
  orphan_refused (sp := { kind := 1, structTy := 5, fields := [("A", 6)] }) 6
    (List.mem_of_getElem? (i := 1) rfl) rfl
    (by
      intro q hq hk hl
      simp only [orphanDecl, List.mem_cons, List.not_mem_nil, or_false] at hq
      rcases hq with rfl | rfl
      · obtain ⟨g, hg, ht⟩ := hl
        cases List.mem_singleton.mp hg
        exact absurd (List.mem_singleton.mp ht) (by decide)
      · exact hk rfl)
    (by decide)
example : errOf (newGraph2 orphanDecl 6) = some (.orphan 5) := by decide

/-- 4: an accepted declaration (a diamond), so `accepted_acyclic` is not vacuous -/
def okDecl : List PSpec :=
  [{ provides := [[1]], requires := [2, 3] }, { provides := [[2]], requires := [3] }, { provides := [[3]], requires := [9] }]

example : isOk (plan okDecl 1) = true := by decide +kernel

/-- 5: cycles: a two-provider cycle, a provider requiring its own output, and a cycle through a struct field -/
def cycDecl : List PSpec := [{ provides := [[1]], requires := [2] }, { provides := [[2]], requires := [1] }]
def selfDecl : List PSpec := [{ provides := [[7]], requires := [1] }, { provides := [[1]], requires := [1] }]
def fieldCycDecl : List PSpec :=
  [{ provides := [[5]], requires := [6] }, { kind := 1, structTy := 5, fields := [("A", 6)] }]

theorem cyc01 : NeedsFn cycDecl 0 1 := ⟨_, _, 2, rfl, rfl, by decide, .head _, ⟨[2], .head _, .head _⟩⟩
theorem cyc10 : NeedsFn cycDecl 1 0 := ⟨_, _, 1, rfl, rfl, by decide, .head _, ⟨[1], .head _, .head _⟩⟩

example : ∃ e, plan cycDecl 1 = .error e :=
  cycle_refused_decl (rp := 0) (q := 0) rfl (by decide) ⟨[1], .head _, .head _⟩ (Reach.refl _)
    (Relation.TransGen.tail (Relation.TransGen.single cyc01) cyc10)
example : errOf (plan cycDecl 1) = some .cycle := by decide +kernel

theorem self01 : NeedsFn selfDecl 0 1 := ⟨_, _, 1, rfl, rfl, by decide, .head _, ⟨[1], .head _, .head _⟩⟩
theorem self11 : NeedsFn selfDecl 1 1 := ⟨_, _, 1, rfl, rfl, by decide, .head _, ⟨[1], .head _, .head _⟩⟩

example : ∃ e, plan selfDecl 7 = .error e :=
  cycle_refused_decl (rp := 0) (q := 1) rfl (by decide) ⟨[7], .head _, .head _⟩ (Reach.tail (Reach.refl _) self01)
    (Relation.TransGen.single self11)
example : errOf (plan selfDecl 7) = some .cycle := by decide

/-- the provider of struct 5 requires its own field: provider 0 needs the synthetic field provider 2, which
    needs provider 0 -/
example : ∃ e, plan fieldCycDecl 5 = .error e :=
  cycle_refused (provs := fieldCycDecl ++ [mkFieldProv 5 0 "A" 6]) (sup := [(5, (0, 0)), (6, (2, 0))])
    (rp := 0) (ri := 0) (q := 0) rfl rfl (Reach.refl _)
    (Relation.TransGen.tail (Relation.TransGen.single ⟨6, by decide, 0, rfl⟩) ⟨5, by decide, 0, rfl⟩)
example : errOf (plan fieldCycDecl 5) = some .cycle := by decide +kernel

end RefuseExamples

end KV

#print axioms KV.dup_refused
#print axioms KV.field_dup_refused
#print axioms KV.field_dup_refused_dup
#print axioms KV.orphan_refused_unsourced
#print axioms KV.structsSourced_of_ordered
#print axioms KV.orphan_refused
#print axioms KV.accepted_acyclic
#print axioms KV.accepted_acyclic_list
#print axioms KV.cycle_refused
#print axioms KV.cycle_refused_decl
