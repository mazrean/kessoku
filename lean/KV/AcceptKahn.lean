import KV.Acyclic
/-! C09, acceptance direction: for a well-formed graph without a cycle, `topoOrder g` (Kahn's algorithm with the
    model's fuel `n + |E| + 4`) contains every node.  The fuel drains the work queue (`topoLoop_drained`); in a drained
    state every missing node has a missing predecessor, an infinite descent in a finite graph, hence a cycle
    (`no_descent`, pigeonhole). -/
namespace KV

theorem no_descent (g : Graph) (N : Nat) (hacyc : ∀ n, ¬ Path g n n) (P : Nat → Prop)
    (hlt : ∀ m, P m → m < N)
    (hstep : ∀ m, P m → ∃ d e, P d ∧ e ∈ g.edges.getD d [] ∧ e.dst = m) : ∀ m, ¬ P m := by
  intro m0 hm0
  -- a chain of `k + 1` nodes in `P` whose head `a` reaches all the others; a repetition would be a cycle
  have hchain : ∀ k : Nat, ∃ a rest, rest.length = k ∧ (∀ x ∈ a :: rest, P x) ∧ (∀ x ∈ rest, Path g a x) ∧
      (a :: rest).Nodup := by
    intro k
    induction k with
    | zero => exact ⟨m0, [], rfl, List.forall_mem_singleton.mpr hm0, nofun, List.pairwise_singleton _ _⟩
    | succ k ih =>
      obtain ⟨a, rest, hlen, hP, hpath, hnd⟩ := ih
      obtain ⟨d, e, hPd, he, hed⟩ := hstep a (hP a List.mem_cons_self)
      have hd : ∀ x ∈ a :: rest, Path g d x := fun x hx =>
        (List.mem_cons.mp hx).elim (fun hxa => hxa ▸ Path.single e he hed) fun hx => Path.cons e he hed (hpath x hx)
      exact ⟨d, a :: rest, congrArg (· + 1) hlen, List.forall_mem_cons.mpr ⟨hPd, hP⟩, hd,
        List.nodup_cons.mpr ⟨fun hm => hacyc d (hd d hm), hnd⟩⟩
  obtain ⟨a, rest, hlen, hP, _, hnd⟩ := hchain N
  have := hnd.length_le_of_subset (l₂ := List.range N) fun x hx => List.mem_range.mpr (hlt x (hP x hx))
  simp only [List.length_cons, hlen, List.length_range] at this
  omega

/-- a bound on the rounds still to come: one per queue entry, and one per edge of an unvisited node (which may
    queue its target when that node is visited) -/
def topoWork (g : Graph) (st : TopoSt) : Nat :=
  st.queue.length + sumBelow (fun v => (g.edges.getD v []).length) (· ∉ st.visited) g.nodes.length

/-- **fuel adequacy**: every round lowers `topoWork` — it pops one queue entry, and visiting a node pushes at most one
    entry per edge of it, edges that count no longer — and the model's fuel covers it at the start. -/
theorem topoLoop_drained {g : Graph} (hg : GWF g) :
    KInv g (topoLoop g (topoFuel g) (topoInit g)) ∧ (topoLoop g (topoFuel g) (topoInit g)).queue = [] := by
  refine (topoLoop_induction hg (fuel := topoFuel g) (Q := fun k st => topoWork g st ≤ k) ?_ ?_ (topoInit_inv hg) ?_).elim
    fun k h => ⟨h.1, h.2.2.elim (fun hk => List.eq_nil_of_length_eq_zero (Nat.le_zero.mp
      (Nat.le_trans (Nat.le_add_right _ _) (hk ▸ h.2.1)))) id⟩
  · intro _ st n q _ hq _ h
    unfold topoWork at h ⊢
    rw [hq, List.length_cons] at h
    show q.length + sumBelow _ (· ∉ st.visited) _ ≤ _
    omega
  · intro _ st n q ps s1 hk hq hv hq1 hps hv1 _ h
    have hps : ps.length ≤ (g.edges.getD n []).length := by simpa using hps.length_le
    have := sumBelow_remove (w := fun v => (g.edges.getD v []).length) (p := (· ∉ st.visited))
      (p' := (· ∉ st.visited ++ [n])) hv (fun hc => hc (List.mem_append_right _ (List.mem_singleton.mpr rfl)))
      (k := g.nodes.length) (fun v _ hv' hc => hv' (List.mem_append_left _ hc))
      (hk.t.queueLt n (by rw [hq]; exact List.mem_cons_self ..))
    unfold topoWork at h ⊢
    rw [hq, List.length_cons] at h
    rw [hq1, hv1, List.length_append]
    omega
  · have h1 := List.length_filter_le (fun i => (g.rev.getD i []).length == 0) (List.range g.nodes.length)
    have h2 := sumBelow_le_foldl (w := fun v => (g.edges.getD v []).length) (p := (· ∉ (topoInit g).visited))
      g.edges 0 (k := g.nodes.length) (fun v _ => by omega)
    rw [List.length_range] at h1
    show (List.filter _ _).length + _ ≤ g.nodes.length + _ + 4
    omega

theorem topoOrder_complete {g : Graph} (hg : GWF2 g)
    (hsrc : ∀ n e, e ∈ g.edges.getD n [] → n < g.nodes.length)
    (hacyc : ∀ n, ¬ Path g n n) : ∀ m, m < g.nodes.length → m ∈ topoOrder g := by
  obtain ⟨hk, hq⟩ := topoLoop_drained hg.toGWF
  rw [topoOrder_eq]
  generalize topoLoop g (topoFuel g) (topoInit g) = st at hk hq
  rw [hk.outEq]
  intro m hm
  apply Classical.byContradiction
  intro hmv
  refine no_descent g g.nodes.length hacyc (fun m => m < g.nodes.length ∧ m ∉ st.visited) (fun _ h => h.1) ?_ m
    ⟨hm, hmv⟩
  rintro m ⟨hm, hmv⟩
  -- `m` is neither queued nor visited, so its count is positive: some slot `i` is not fed by a visited node, and
  -- the node that feeds it is a predecessor that is missing too
  have hcnt : ¬ ∀ i, i < (g.rev.getD m []).length → ∃ n ∈ st.visited, hasEdge g n m i := by
    rw [← (hk.t.row m hm).count_zero_iff, hk.t.zero m hm, hq]
    exact fun h => h.elim (fun h => nomatch h) hmv
  obtain ⟨i, hi⟩ := Classical.not_forall.mp hcnt
  obtain ⟨hir, hnf⟩ := Classical.not_imp.mp hi
  obtain ⟨e, he, hed, hes⟩ := hg.revEdge m i _ (List.getElem?_eq_getElem hir)
  exact ⟨_, e, ⟨hsrc _ e he, fun hdv => hnf ⟨_, hdv, e, he, hed, hes⟩⟩, he, hed⟩

end KV

#print axioms KV.topoOrder_complete
