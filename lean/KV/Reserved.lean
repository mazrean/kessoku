import KV.Imports
/-! # Reserved local names of the import table (fix 42d40f3 of `NewTypeConverter`)

Since the repair the converter starts with names that no import may take: `kessoku` (the import the writer always
adds) and every identifier declared at package level in the package the file is written for.  In the model they are
entries of `used` that point at a pseudo path which is never imported. -/
namespace Imp

/-- the pseudo path reserved names point at (the Go code uses the empty string, which is no import path) -/
def reservedPath : Nat := 1000000

/-- the table `NewTypeConverter` starts from -/
def TC.withReserved (names : List String) : TC :=
  { imports := [], used := names.map (fun n => (n, reservedPath)), counters := [] }

/-- `Inv` with reserved names: the import table and the name table are inverse to each other on real paths, reserved
    names belong to no import -/
def InvR (tc : TC) : Prop :=
  (∀ p n, tc.imports.lookup p = some n → tc.used.lookup n = some p) ∧
  (∀ n p, tc.used.lookup n = some p → p ≠ reservedPath → tc.imports.lookup p = some n) ∧
  tc.imports.lookup reservedPath = none

end Imp
