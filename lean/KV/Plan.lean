/-! Executable model of internal/kessoku/graph.go (`NewGraph`, `Build`, `buildStmts`). Definitions only. -/
namespace KV

structure PSpec where
  kind : Nat := 0            -- 0 function, 1 struct, 2 fieldAccess
  requires : List Nat := []
  provides : List (List Nat) := []
  isAsync : Bool := false
  isErr : Bool := false
  structTy : Nat := 0
  fields : List (String × Nat) := []
  fieldName : String := ""
  decl : Nat := 0
deriving Repr, Inhabited

inductive PlanErr where
  | dup (ty : Nat) | orphan (ty : Nat) | cycle | noInitial | noReturn | invalid
deriving Repr, DecidableEq

abbrev SupMap := List (Nat × (Nat × Nat))     -- type key ↦ (provider index, result group)

/-! ## NewGraph, pass 1 and 2 -/

def pass1Types (pi gi : Nat) : List Nat → SupMap → Except PlanErr SupMap
  | [], m => pure m
  | t :: ts, m =>
    match m.lookup t with
    | some (p, _) => if p ≠ pi then throw (.dup t) else pass1Types pi gi ts m
    | none => pass1Types pi gi ts (m ++ [(t, (pi, gi))])

def pass1Groups (pi : Nat) : Nat → List (List Nat) → SupMap → Except PlanErr SupMap
  | _, [], m => pure m
  | gi, g :: gs, m => do
    let m' ← pass1Types pi gi g m
    pass1Groups pi (gi + 1) gs m'

def pass1 : Nat → List PSpec → SupMap → Except PlanErr SupMap
  | _, [], m => pure m
  | pi, p :: ps, m =>
    if p.kind == 1 then pass1 (pi + 1) ps m
    else do
      let m' ← pass1Groups pi 0 p.provides m
      pass1 (pi + 1) ps m'

/-- expand the fields of one struct provider; `next` is the index the next synthetic provider gets -/
def expandFields (sty decl : Nat) : List (String × Nat) → List PSpec → SupMap → Except PlanErr (List PSpec × SupMap)
  | [], provs, m => pure (provs, m)
  | (fname, fty) :: fs, provs, m =>
    match m.lookup fty with
    | some _ => throw (.dup fty)
    | none =>
      let fp : PSpec := { kind := 2, requires := [sty], provides := [[fty]], structTy := sty,
                          fieldName := fname, decl := decl }
      expandFields sty decl fs (provs ++ [fp]) (m ++ [(fty, (provs.length, 0))])

/-- struct expansion as it was before the repair of the order defect (`Struct` providers strictly in declaration
    order, `orphan` as soon as one has no supplier yet).  No longer used by `newGraph`; kept as a reference:
    `pass2_old_ok` (`KV/StructRounds.lean`) says the repaired `pass2` returns the same result whenever this one
    accepts, and every run of `pass2` is a run of this function on a reordering (`pass2_cases`). -/
def pass2Ordered : List PSpec → List PSpec → SupMap → Except PlanErr (List PSpec × SupMap)
  | [], provs, m => pure (provs, m)
  | sp :: sps, provs, m =>
    match m.lookup sp.structTy with
    | none => throw (.orphan sp.structTy)
    | some _ => do
      let (provs', m') ← expandFields sp.structTy sp.decl sp.fields provs m
      pass2Ordered sps provs' m'

/-- one round over the pending struct providers, in order: a provider whose struct type has a supplier *now*
    (possibly a field expanded earlier in this very round) is expanded, the others are deferred.
    Result: provider list, supplier map, deferred providers (in pending order). -/
def pass2Round : List PSpec → List PSpec → SupMap → Except PlanErr (List PSpec × SupMap × List PSpec)
  | [], provs, m => .ok (provs, m, [])
  | sp :: sps, provs, m =>
    match m.lookup sp.structTy with
    | none =>
      match pass2Round sps provs m with
      | .error e => .error e
      | .ok (provs', m', deferred) => .ok (provs', m', sp :: deferred)
    | some _ =>
      match expandFields sp.structTy sp.decl sp.fields provs m with
      | .error e => .error e
      | .ok (provs', m') => pass2Round sps provs' m'

/-- rounds until nothing is pending or a round makes no progress (`orphan` of the first deferred provider).
    Every round with progress shortens the pending list, so fuel ≥ its length is never exhausted
    (`pass2Rounds_fuel`); the `0` case only makes the function total. -/
def pass2Rounds : Nat → List PSpec → List PSpec → SupMap → Except PlanErr (List PSpec × SupMap)
  | _, [], provs, m => .ok (provs, m)
  | 0, sp :: _, _, _ => .error (.orphan sp.structTy)
  | fuel + 1, sp :: sps, provs, m =>
    match pass2Round (sp :: sps) provs m with
    | .error e => .error e
    | .ok (provs', m', deferred) =>
      if deferred.length = (sp :: sps).length then .error (.orphan (deferred.headD sp).structTy)
      else pass2Rounds fuel deferred provs' m'

/-- struct expansion (repaired): fixpoint iteration over the `Struct` providers, so that a struct whose value is a
    field of another expanded struct is expanded whatever the declaration order -/
def pass2 (sps : List PSpec) (provs : List PSpec) (m : SupMap) : Except PlanErr (List PSpec × SupMap) :=
  pass2Rounds (sps.length + 1) sps provs m

/-! ## NewGraph, BFS -/

structure Node where
  isArg : Bool
  ty : Nat := 0
  prov : Nat := 0
deriving Repr, Inhabited

structure Edge where
  dst : Nat
  src : Nat
  slot : Nat
deriving Repr, Inhabited

structure Graph where
  provs : List PSpec
  nodes : List Node
  edges : List (List Edge)     -- indexed by node
  rev : List (List Nat)        -- indexed by node
  retNode : Nat
  retIdx : Nat
deriving Repr, Inhabited

structure BfsSt where
  nodes : List Node
  provNode : List (Nat × Nat)
  argNode : List (Nat × Nat)
  queue : List Nat
  visited : List Nat
  edges : List (List Edge)
  rev : List (List Nat)

def listModify {α} (l : List α) (i : Nat) (f : α → α) : List α :=
  match l[i]? with
  | some a => l.set i (f a)
  | none => l

def addNode (st : BfsSt) (nd : Node) : BfsSt × Nat :=
  let idx := st.nodes.length
  ({ st with nodes := st.nodes ++ [nd], edges := st.edges ++ [[]], rev := st.rev ++ [[]],
             queue := st.queue ++ [idx] }, idx)

/-- choose (or create) the node supplying type key `t` -/
def pickNode (sup : SupMap) (t : Nat) (st : BfsSt) : BfsSt × Nat × Nat :=
  match sup.lookup t with
  | some (p, gi) =>
    match st.provNode.lookup p with
    | some n2 => (st, n2, gi)
    | none =>
      ({ (addNode st { isArg := false, prov := p }).1 with
           provNode := st.provNode ++ [(p, (addNode st { isArg := false, prov := p }).2)] },
       (addNode st { isArg := false, prov := p }).2, gi)
  | none =>
    match st.argNode.lookup t with
    | some n2 => (st, n2, 0)
    | none =>
      ({ (addNode st { isArg := true, ty := t }).1 with
           argNode := st.argNode ++ [(t, (addNode st { isArg := true, ty := t }).2)] },
       (addNode st { isArg := true, ty := t }).2, 0)

/-- one requirement of node `n1` (slot `i`, type key `t`) -/
def reqStep (sup : SupMap) (n1 i t : Nat) (st : BfsSt) : BfsSt :=
  { (pickNode sup t st).1 with
    edges := listModify (pickNode sup t st).1.edges (pickNode sup t st).2.1
      (· ++ [{ dst := n1, src := (pickNode sup t st).2.2, slot := i }]),
    rev := listModify (pickNode sup t st).1.rev n1 (· ++ [(pickNode sup t st).2.1]) }

/-- process the requirements of node `n1` (slot index `i` upward) -/
def bfsRequires (provs : List PSpec) (sup : SupMap) (n1 : Nat) : Nat → List Nat → BfsSt → BfsSt
  | _, [], st => st
  | i, t :: ts, st => bfsRequires provs sup n1 (i + 1) ts (reqStep sup n1 i t st)

def bfsLoop (provs : List PSpec) (sup : SupMap) : Nat → BfsSt → BfsSt
  | 0, st => st
  | fuel + 1, st =>
    match st.queue with
    | [] => st
    | n1 :: q =>
      let st := { st with queue := q }
      if st.visited.contains n1 then bfsLoop provs sup fuel st
      else
        let st := { st with visited := st.visited ++ [n1] }
        match st.nodes[n1]? with
        | none => bfsLoop provs sup fuel st
        | some nd =>
          if nd.isArg then bfsLoop provs sup fuel st
          else
            let reqs := (provs.getD nd.prov default).requires
            bfsLoop provs sup fuel (bfsRequires provs sup n1 0 reqs st)

/-! ## cycle detection: three-colour DFS (0 white, 1 gray, 2 black) -/

mutual
def dfsVisit (edges : List (List Edge)) : Nat → Nat → List Nat → (List Nat × Bool)
  | 0, _, colors => (colors, true)      -- out of fuel: report as cycle (never reached with adequate fuel)
  | fuel + 1, node, colors =>
    let colors := colors.set node 1
    let (colors, found) := dfsEdges edges fuel (edges.getD node []) colors
    if found then (colors, true) else (colors.set node 2, false)
def dfsEdges (edges : List (List Edge)) : Nat → List Edge → List Nat → (List Nat × Bool)
  | _, [], colors => (colors, false)
  | 0, _ :: _, colors => (colors, true)
  | fuel + 1, e :: es, colors =>
    if colors.getD e.dst 0 == 1 then (colors, true)
    else if colors.getD e.dst 0 == 0 then
      let (colors, found) := dfsVisit edges fuel e.dst colors
      if found then (colors, true) else dfsEdges edges fuel es colors
    else dfsEdges edges fuel es colors
end

def detectCycles (edges : List (List Edge)) (n : Nat) : Bool :=
  let rec go : Nat → Nat → List Nat → Bool
    | 0, _, _ => false
    | k + 1, i, colors =>
      if colors.getD i 0 == 0 then
        let (colors, found) := dfsVisit edges (2 * n + 2 + (edges.foldl (fun a l => a + l.length) 0) * 2) i colors
        if found then true else go k (i + 1) colors
      else go k (i + 1) colors
  go n 0 (List.replicate n 0)

def newGraph (provs0 : List PSpec) (ret : Nat) : Except PlanErr Graph := do
  let sup1 ← pass1 0 provs0 []
  let structs := provs0.filter (·.kind == 1)
  let (provs, sup) ← pass2 structs provs0 sup1
  match sup.lookup ret with
  | none =>
    pure { provs := provs, nodes := [{ isArg := true, ty := ret }], edges := [[]], rev := [[]],
           retNode := 0, retIdx := 0 }
  | some (rp, ri) =>
    let st0 : BfsSt := { nodes := [{ isArg := false, prov := rp }], provNode := [], argNode := [],
                         queue := [0], visited := [], edges := [[]], rev := [[]] }
    let fuel := 4 * (provs.length + (provs.foldl (fun a p => a + p.requires.length) 0)) + 8
    let st := bfsLoop provs sup fuel st0
    if detectCycles st.edges st.nodes.length then throw .cycle
    else pure { provs := provs, nodes := st.nodes, edges := st.edges, rev := st.rev, retNode := 0, retIdx := ri }

/-! ## Build -/

/-- Kuhn's augmenting path; `used` and `matchR` are shared mutable slices in Go, threaded here. -/
def findAug (adj : List (List Nat)) : Nat → List Nat → List Bool → List (Option Nat) → (Bool × List Bool × List (Option Nat))
  | 0, _, used, matchR => (false, used, matchR)
  | _, [], used, matchR => (false, used, matchR)
  | fuel + 1, v :: vs, used, matchR =>
    if used.getD v false then findAug adj fuel vs used matchR   -- note: fuel decremented per inspected neighbour
    else
      let used := used.set v true
      match matchR.getD v none with
      | none => (true, used, matchR.set v (some 0))  -- placeholder, caller fixes `u`
      | some w =>
        let (ok, used, matchR) := findAug adj fuel (adj.getD w []) used matchR
        if ok then (true, used, matchR) else findAug adj fuel vs used matchR

/-- size only matters, so we do not track which `u` is stored in `matchR[v]` except for recursion:
    we must, because recursion follows `matchR[v]`. Proper version below. -/
def findAugU (adj : List (List Nat)) : Nat → Nat → List Nat → List Bool → List (Option Nat) → (Bool × List Bool × List (Option Nat))
  | 0, _, _, used, matchR => (false, used, matchR)
  | _, _, [], used, matchR => (false, used, matchR)
  | fuel + 1, u, v :: vs, used, matchR =>
    if used.getD v false then findAugU adj fuel u vs used matchR
    else
      let used := used.set v true
      match matchR.getD v none with
      | none => (true, used, matchR.set v (some u))
      | some w =>
        let (ok, used, matchR) := findAugU adj fuel w (adj.getD w []) used matchR
        if ok then (true, used, matchR.set v (some u)) else findAugU adj fuel u vs used matchR

def maxAntichain (g : Graph) : Nat :=
  let n := g.nodes.length
  let adj : List (List Nat) := g.edges.map (·.map (·.dst))
  let fuel := (n + 1) * (n + 1) * 4 + (adj.foldl (fun a l => a + l.length) 0) * (n + 1) + 8
  let rec go : Nat → Nat → List (Option Nat) → Nat → Nat
    | 0, _, _, size => size
    | k + 1, u, matchR, size =>
      let (ok, _, matchR) := findAugU adj fuel u (adj.getD u []) (List.replicate n false) matchR
      go k (u + 1) matchR (if ok then size - 1 else size)
  go n 0 (List.replicate n none) n

/-- Kahn order. counts: remaining requirement count; prov: provided flags per slot. -/
structure TopoSt where
  queue : List Nat
  counts : List Nat
  provided : List (List Bool)
  visited : List Nat
  out : List Nat

def topoEdges : List Edge → TopoSt → TopoSt
  | [], st => st
  | e :: es, st =>
    let flags := st.provided.getD e.dst []
    if e.dst ≥ st.counts.length || flags.getD e.slot false then topoEdges es st
    else
      let c := st.counts.getD e.dst 0 - 1
      let st := { st with counts := st.counts.set e.dst c,
                          provided := st.provided.set e.dst (flags.set e.slot true) }
      let st := if c == 0 then { st with queue := st.queue ++ [e.dst] } else st
      topoEdges es st

def topoLoop (g : Graph) : Nat → TopoSt → TopoSt
  | 0, st => st
  | fuel + 1, st =>
    match st.queue with
    | [] => st
    | n :: q =>
      let st := { st with queue := q }
      if st.visited.contains n then topoLoop g fuel st
      else
        let st := { st with visited := st.visited ++ [n] }
        let st := topoEdges (g.edges.getD n []) st
        topoLoop g fuel { st with out := st.out ++ [n] }

def nodeSlots (g : Graph) (i : Nat) : Nat :=
  match g.nodes[i]? with
  | some nd => if nd.isArg then 0 else (g.provs.getD nd.prov default).requires.length
  | none => 0

def topoOrder (g : Graph) : List Nat :=
  let n := g.nodes.length
  let idxs := List.range n
  let counts := idxs.map (fun i => (g.rev.getD i []).length)
  let provided := idxs.map (fun i => List.replicate (nodeSlots g i) false)
  let q := idxs.filter (fun i => (g.rev.getD i []).length == 0)
  (topoLoop g (n + (g.edges.foldl (fun a l => a + l.length) 0) + 4)
    { queue := q, counts := counts, provided := provided, visited := [], out := [] }).out

def isAsyncNode (g : Graph) (n : Nat) : Bool :=
  match g.nodes[n]? with
  | some nd => !nd.isArg && (g.provs.getD nd.prov default).isAsync
  | none => false

/-- findOptimalPool. `pools`: node lists; `poolProv`: provided node sets per pool. -/
def findOptimalPool (g : Graph) (n : Nat) (pools : List (List Nat)) (poolProv : List (List Nat)) : Nat :=
  let deps := g.rev.getD n []
  let async := isAsyncNode g n
  -- first loop
  let step := fun (acc : Nat × List Nat) (i : Nat) =>
    let (maxC, maxPools) := acc
    let provd := poolProv.getD i []
    let cnt := (deps.filter (fun d => provd.contains d)).length
    if !async && (pools.getD i []).isEmpty then (maxC, maxPools)
    else if cnt > maxC then (cnt, [i])
    else if cnt == maxC then (maxC, maxPools ++ [i])
    else (maxC, maxPools)
  let (maxC, maxPools) := (List.range pools.length).foldl step (0, [])
  if maxPools.isEmpty then 0
  else
    -- POOL_LOOP
    let poolLoop : Option Nat :=
      if maxC == deps.length then
        let rec scan : List Nat → Option Nat      -- reversed pool content
          | [] => none                             -- fell off: inner loop finished without decision
          | nd :: rest =>
            if deps.contains nd then some 1        -- return poolIdx
            else if isAsyncNode g nd then some 2   -- continue POOL_LOOP
            else scan rest
        let rec loop : List Nat → Option Nat
          | [] => none
          | p :: ps =>
            if !async then some p
            else
              match scan (pools.getD p []).reverse with
              | some 1 => some p
              | some _ => loop ps
              | none => if p == 0 then some 0 else loop ps
        loop maxPools
      else none
    match poolLoop with
    | some p => p
    | none =>
      let emptyIdx := (List.range pools.length).find? (fun i => (pools.getD i []).isEmpty)
      match (if async then emptyIdx else none) with
      | some i => i
      | none =>
        -- min size among maxPools
        let (_, best) := maxPools.foldl (fun (acc : Option Nat × Nat) p =>
          let sz := (pools.getD p []).length
          if !async && sz == 0 then acc
          else match acc.1 with
            | none => (some sz, p)
            | some m => if sz < m then (some sz, p) else acc) (none, 0)
        best

structure Param where
  node : Nat
  group : Nat
  isArg : Bool
  refs : Nat := 0
  withChan : Bool := false
deriving Repr, Inhabited

structure CallArg where
  param : Nat        -- index into params
  isWait : Bool
deriving Repr, Inhabited

structure BuildOut where
  params : List Param
  args : List Nat            -- param indices of injector arguments, in order
  retParam : Nat
  isErr : Bool
  pools : List (List Nat)
  nodePool : List (Option Nat)    -- per node: none for args
  nodeRets : List (List Nat)      -- per node: param indices
  nodeArgs : List (List CallArg)  -- per node
deriving Repr, Inhabited

def build (g : Graph) : Except PlanErr BuildOut := do
  let nn := g.nodes.length
  let k := maxAntichain g
  let order := topoOrder g
  let argNodes := (List.range nn).filter (fun i => (g.nodes.getD i default).isArg)
  -- first pass
  let init : (List (List Nat) × List (List Nat) × List Param × List Nat × List (Option Nat) × List (List Nat) × Option Nat × Bool) :=
    (List.replicate k [], List.replicate k argNodes, [], [], List.replicate nn none, List.replicate nn [], none, false)
  let (pools, _poolProv, params, args, nodePool, nodeRets, retParam, isErr) :=
    order.foldl (fun acc n =>
      let (pools, poolProv, params, args, nodePool, nodeRets, retParam, isErr) := acc
      let nd := g.nodes.getD n default
      if nd.isArg then
        let pidx := params.length
        let params := params ++ [{ node := n, group := 0, isArg := true : Param }]
        let nodeRets := nodeRets.set n [pidx]
        let retParam := if n == g.retNode then some pidx else retParam
        (pools, poolProv, params, args ++ [pidx], nodePool, nodeRets, retParam, isErr)
      else
        let spec := g.provs.getD nd.prov default
        let p := findOptimalPool g n pools poolProv
        let pools := listModify pools p (· ++ [n])
        let poolProv := listModify poolProv p (· ++ [n])
        let base := params.length
        let newParams := (List.range spec.provides.length).map (fun gi => ({ node := n, group := gi, isArg := false } : Param))
        let params := params ++ newParams
        let rets := (List.range spec.provides.length).map (· + base)
        let nodeRets := nodeRets.set n rets
        let retParam := if n == g.retNode then some (base + g.retIdx) else retParam
        (pools, poolProv, params, args, nodePool.set n (some p), nodeRets, retParam, isErr || spec.isErr)
    ) init
  let some rp := retParam | throw .noReturn
  -- Ref(false) on return param
  let params := listModify params rp (fun p => { p with refs := p.refs + 1 })
  -- second pass
  let nodeArgs0 : List (List CallArg) := (List.range nn).map (fun i => List.replicate (nodeSlots g i) { param := 0, isWait := false })
  let (params, nodeArgs) := order.foldl (fun acc n =>
      (g.edges.getD n []).foldl (fun acc e =>
        let (params, nodeArgs) := acc
        let pidx := (nodeRets.getD n []).getD e.src 0
        let samePool := match nodePool.getD n none, nodePool.getD e.dst none with
          | some a, some b => a == b
          | _, _ => false
        let shouldWait := !samePool
        let nodeArgs := listModify nodeArgs e.dst (·.set e.slot { param := pidx, isWait := shouldWait })
        let params := listModify params pidx (fun p => { p with refs := p.refs + 1, withChan := !p.isArg && (p.withChan || shouldWait) })
        (params, nodeArgs)) acc
    ) (params, nodeArgs0)
  pure { params := params, args := args, retParam := rp, isErr := isErr, pools := pools,
         nodePool := nodePool, nodeRets := nodeRets, nodeArgs := nodeArgs }

/-! ## buildStmts: which pool is the main thread, which are goroutines (in emission order) -/

def depsIn (g : Graph) (n : Nat) (s : List Nat) : Bool := (g.rev.getD n []).all (fun d => s.contains d)

def buildStmts (g : Graph) (pools : List (List Nat)) : Except PlanErr (List Nat × List (List Nat)) := do
  let argNodes := (List.range g.nodes.length).filter (fun i => (g.nodes.getD i default).isArg)
  let idxs := List.range pools.length
  let nonEmpty := idxs.filter (fun i => !(pools.getD i []).isEmpty)
  let first := fun i => (pools.getD i []).headD 0
  let initial := nonEmpty.filter (fun i => depsIn g (first i) argNodes)
  if initial.isEmpty then throw .noInitial
  let syncIdx := initial.find? (fun i => !isAsyncNode g (first i))
  let parentIdx := match syncIdx with | some i => i | none => initial.headD 0
  let visited := [parentIdx]
  let processed := argNodes ++ pools.getD parentIdx []
  let parent := pools.getD parentIdx []
  -- remaining initial pools as chains
  let (visited, processed, chains) := initial.foldl (fun acc i =>
      let (visited, processed, chains) := acc
      if visited.contains i then acc
      else (visited ++ [i], processed ++ pools.getD i [], chains ++ [pools.getD i []])) (visited, processed, ([] : List (List Nat)))
  -- dependent pools, rounds
  let round := fun (st : List Nat × List Nat × List (List Nat) × List Nat × Bool) =>
    idxs.foldl (fun st i =>
      let (visited, processed, chains, parent, _progress) := st
      let pool := pools.getD i []
      if visited.contains i || pool.isEmpty then st
      else if depsIn g (first i) processed then
        if isAsyncNode g (first i) then (visited ++ [i], processed ++ pool, chains ++ [pool], parent, true)
        else (visited ++ [i], processed ++ pool, chains, parent ++ pool, true)
      else st) (st.1, st.2.1, st.2.2.1, st.2.2.2.1, false)
  let rec rounds : Nat → (List Nat × List Nat × List (List Nat) × List Nat × Bool) → (List Nat × List Nat × List (List Nat) × List Nat × Bool)
    | 0, st => st
    | k + 1, st =>
      let st' := round st
      if st'.2.2.2.2 then rounds k st' else st'
  let (_, _, chains, parent, _) := rounds (pools.length + 1) (visited, processed, chains, parent, false)
  pure (parent, chains)

/-! ## canonical dump -/

def dumpCall (ext : Bool) (g : Graph) (b : BuildOut) (n : Nat) : String :=
  let nd := g.nodes.getD n default
  let spec := g.provs.getD nd.prov default
  let argS := (b.nodeArgs.getD n []).map (fun a =>
    let p := b.params.getD a.param default
    if ext && p.isArg then s!"a{p.node}:{(g.nodes.getD p.node default).ty}"
    else s!"{if p.isArg then "a" else "v"}{p.node}.{p.group}{if a.isWait && p.withChan then "w" else ""}")
  let retS := (b.nodeRets.getD n []).map (fun r =>
    let p := b.params.getD r default
    s!"{if p.refs == 0 then "_" else "r"}{if p.withChan then "c" else ""}")
  let head := if spec.kind == 2 then s!"F{spec.decl}.{spec.fieldName}" else s!"P{spec.decl}"
  let ext := if ext then s!"@{n}{if spec.isErr then "!" else ""}{if spec.isAsync then "~" else ""}" else ""
  s!"{head}{ext}({",".intercalate argS})->({",".intercalate retS})"

/-- declaration-level identity of a value: which provider (by declaration index) and which result group -/
def valueId (g : Graph) (b : BuildOut) (pidx : Nat) : String :=
  let p := b.params.getD pidx default
  let nd := g.nodes.getD p.node default
  if nd.isArg then s!"A{nd.ty}"
  else
    let spec := g.provs.getD nd.prov default
    if spec.kind == 2 then s!"F{spec.decl}.{spec.fieldName}" else s!"P{spec.decl}.{p.group}"

def dumpCallSem (g : Graph) (b : BuildOut) (n : Nat) : String :=
  let nd := g.nodes.getD n default
  let spec := g.provs.getD nd.prov default
  let argS := (b.nodeArgs.getD n []).map (fun a =>
    let p := b.params.getD a.param default
    s!"{valueId g b a.param}{if a.isWait && p.withChan then "w" else ""}")
  let retS := (b.nodeRets.getD n []).map (fun r =>
    let p := b.params.getD r default
    s!"{if p.refs == 0 then "_" else "r"}{if p.withChan then "c" else ""}")
  let head := if spec.kind == 2 then s!"F{spec.decl}.{spec.fieldName}" else s!"P{spec.decl}"
  s!"{head}({",".intercalate argS})->({",".intercalate retS})"

def errStr : PlanErr → String
  | .dup _ => "dup" | .orphan _ => "orphan" | .cycle => "cycle" | .noInitial => "noInitial"
  | .noReturn => "noReturn" | .invalid => "invalid"

def planDumpSem (provs : List PSpec) (ret : Nat) : String :=
  match newGraph provs ret with
  | .error e => s!"ERR {errStr e}"
  | .ok g =>
    match build g with
    | .error e => s!"ERR {errStr e}"
    | .ok b =>
      match buildStmts g b.pools with
      | .error e => s!"ERR {errStr e}"
      | .ok (parent, chains) =>
        let hasAsync := (List.range g.nodes.length).any (isAsyncNode g)
        let argTys := b.args.map (fun pi => (g.nodes.getD (b.params.getD pi default).node default).ty)
        let thr := fun (l : List Nat) => " ".intercalate (l.map (dumpCallSem g b))
        s!"OK async={hasAsync} err={b.isErr} args={argTys} main=[{thr parent}] go=[{" | ".intercalate (chains.map thr)}] ret={valueId g b b.retParam}"

def planDump (provs : List PSpec) (ret : Nat) (ext : Bool := false) : String :=
  match newGraph provs ret with
  | .error e => s!"ERR {errStr e}"
  | .ok g =>
    match build g with
    | .error e => s!"ERR {errStr e}"
    | .ok b =>
      match buildStmts g b.pools with
      | .error e => s!"ERR {errStr e}"
      | .ok (parent, chains) =>
        let hasAsync := (List.range g.nodes.length).any (isAsyncNode g)
        let argTys := b.args.map (fun pi => (g.nodes.getD (b.params.getD pi default).node default).ty)
        let thr := fun (l : List Nat) => " ".intercalate (l.map (dumpCall ext g b))
        let rp := b.params.getD b.retParam default
        let retS := if ext then s!" ret=v{rp.node}.{rp.group}" else ""
        s!"OK async={hasAsync} err={b.isErr} args={argTys} main=[{thr parent}] go=[{" | ".intercalate (chains.map thr)}]{retS}"

end KV
