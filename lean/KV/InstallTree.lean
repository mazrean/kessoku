import KV.InstallProofs
import KV.ListLemmas
/-! # C15 / C16 at tree level: the per-file install theorems lifted over `Install`'s walk

`Install` walks the embedded skill tree in a fixed order and calls `InstallFile` once per file, stopping at
the first error.  This file models that walk on top of the per-file model (`runOK` / `runCrash` / `runFail`
of `KV/InstallModel.lean`) and lifts `crash_atomic_of_safe`, `rerun_completes_of`, `fault_clean_of_safe`
to the whole tree.

Modelling decisions (all faithful to the per-file model):
* a destination path is a `Nat` id; the files of the tree have pairwise distinct destinations
  (explicit `Nodup` hypothesis on `paths files`);
* the file-system state `FS` is a function from destination path to `Option FileV` plus the list of
  leftover temp files (each tagged with the destination it was created for);
* one `InstallFile` call *reads and writes only its own destination and its own temp*: it starts from
  `fs.enter p = { dest := fs.file p, tmp := none }` (`os.CreateTemp` picks a fresh name, so the run's own
  temp does not exist yet and older garbage is never touched) and its final `St` is written back by
  `fs.commit p` (destination `p` updated; a temp that is still there is added to the leftover list);
* directories (`MkdirAll`) are not part of the state, exactly as in the per-file model. -/
namespace Inst

abbrev Path := Nat

/-- the embedded tree in walk order: destination path and bytes of every file -/
abbrev Tree := List (Path × List Nat)

def paths (files : Tree) : List Path := files.map (·.1)

structure FS where
  file : Path → Option FileV
  temps : List (Path × FileV)

/-- the per-file view at the start of `InstallFile` for destination `p`: this run's temp is fresh -/
def FS.enter (fs : FS) (p : Path) : St := { dest := fs.file p, tmp := none }

/-- write the per-file view back: only destination `p` and this run's temp are affected -/
def FS.commit (fs : FS) (p : Path) (s : St) : FS :=
  { file := fun q => if q = p then s.dest else fs.file q
    temps := match s.tmp with
      | some f => (p, f) :: fs.temps
      | none => fs.temps }

/-- a complete walk: `runOK` per file in order, stop at the first reported error -/
def installTree (steps : List Step) (cl : List Cleanup) : Tree → FS → FS × Bool
  | [], fs => (fs, false)
  | (p, c) :: rest, fs =>
    let o := runOK c steps cl (fs.enter p)
    if o.reported then (fs.commit p o.st, true) else installTree steps cl rest (fs.commit p o.st)

/-- the process dies while installing file number `i`, after `k` complete steps of that `InstallFile`
    call and `j` bytes into a write; files before `i` went through complete runs, files after `i` are
    never reached.  (`i ≥ files.length`: the process outlives the walk.) -/
def crashTree (steps : List Step) (cl : List Cleanup) (k j : Nat) : Tree → Nat → FS → FS
  | [], _, fs => fs
  | (p, c) :: _, 0, fs => fs.commit p (runCrash c steps k j (fs.enter p))
  | (p, c) :: rest, i + 1, fs =>
    let o := runOK c steps cl (fs.enter p)
    if o.reported then fs.commit p o.st else crashTree steps cl k j rest i (fs.commit p o.st)

/-- step `k` of the `InstallFile` call for file number `i` fails (`j` bytes of a failing write got
    through); the walk stops there if the error is reported, otherwise it carries on. -/
def faultTree (steps : List Step) (cl : List Cleanup) (k j : Nat) : Tree → Nat → FS → FS × Bool
  | [], _, fs => (fs, false)
  | (p, c) :: rest, 0, fs =>
    let o := runFail c steps cl k j (fs.enter p)
    if o.reported then (fs.commit p o.st, true) else installTree steps cl rest (fs.commit p o.st)
  | (p, c) :: rest, i + 1, fs =>
    let o := runOK c steps cl (fs.enter p)
    if o.reported then (fs.commit p o.st, true) else faultTree steps cl k j rest i (fs.commit p o.st)

/-! ## Frame lemmas for one per-file run -/

theorem commit_file_self (fs : FS) (p : Path) (s : St) : (fs.commit p s).file p = s.dest := by
  simp only [FS.commit, if_true]

theorem commit_file_other (fs : FS) (p q : Path) (s : St) (h : q ≠ p) : (fs.commit p s).file q = fs.file q := by
  simp only [FS.commit, h, if_false]

theorem commit_temps_none (fs : FS) (p : Path) (d : Option FileV) :
    (fs.commit p { dest := d, tmp := none }).temps = fs.temps := rfl

theorem commit_temps_grow (fs : FS) (p : Path) (s : St) :
    ∃ l, (fs.commit p s).temps = l ++ fs.temps ∧ l.length ≤ 1 := by
  cases hs : s.tmp with
  | none => exact ⟨[], by simp only [FS.commit, hs, List.nil_append], by simp⟩
  | some f => exact ⟨[(p, f)], by simp only [FS.commit, hs, List.cons_append, List.nil_append], by simp⟩

theorem commit_enter (fs : FS) (p : Path) : fs.commit p { dest := fs.file p, tmp := none } = fs := by
  cases fs with
  | mk file temps =>
    simp only [FS.commit, FS.mk.injEq, and_true]
    funext q
    split
    · rename_i e; rw [e]
    · rfl

theorem paths_cons (p : Path) (c : List Nat) (rest : Tree) : paths ((p, c) :: rest) = p :: paths rest := rfl

theorem mem_paths_of_mem {files : Tree} {p : Path} {c : List Nat} (h : (p, c) ∈ files) : p ∈ paths files :=
  List.mem_map.mpr ⟨(p, c), h, rfl⟩

theorem paths_getElem? {files : Tree} {n : Nat} {p : Path} {c : List Nat} (h : files[n]? = some (p, c)) :
    (paths files)[n]? = some p := by
  simp only [paths, List.getElem?_map, h, Option.map_some]

/-! ## The state after complete runs on a list of files

Under `completes` every `InstallFile` call replaces its destination by `(bytes, mode)` and leaves no temp, so each of
the three walks is `putAll` on a prefix of the tree followed by at most one per-file event. -/

def FS.put (fs : FS) (p : Path) (c : List Nat) (mode : Nat) : FS :=
  fs.commit p { dest := some (c, mode), tmp := none }

def putAll (mode : Nat) (files : Tree) (fs : FS) : FS := files.foldl (fun fs pc => fs.put pc.1 pc.2 mode) fs

theorem putAll_cons (mode : Nat) (p : Path) (c : List Nat) (rest : Tree) (fs : FS) :
    putAll mode ((p, c) :: rest) fs = putAll mode rest (fs.put p c mode) := rfl

theorem putAll_temps (mode : Nat) (files : Tree) (fs : FS) : (putAll mode files fs).temps = fs.temps := by
  induction files generalizing fs with
  | nil => rfl
  | cons x rest ih => rw [putAll_cons, ih]; rfl

theorem putAll_file_of_not_mem (mode : Nat) {files : Tree} {q : Path} (hq : q ∉ paths files) (fs : FS) :
    (putAll mode files fs).file q = fs.file q := by
  induction files generalizing fs with
  | nil => rfl
  | cons x rest ih =>
    rw [paths_cons, List.mem_cons, not_or] at hq
    rw [putAll_cons, ih hq.2]
    exact commit_file_other fs _ q _ hq.1

theorem putAll_take_file_of_not_mem (mode : Nat) {files : Tree} {q : Path} (hq : q ∉ paths files) (i : Nat) (fs : FS) :
    (putAll mode (files.take i) fs).file q = fs.file q :=
  putAll_file_of_not_mem mode (fun hm => hq ((List.take_sublist i files).map _ |>.subset hm)) fs

theorem putAll_file_of_mem (mode : Nat) {files : Tree} (hnd : (paths files).Nodup) {p : Path} {c : List Nat}
    (hm : (p, c) ∈ files) (fs : FS) : (putAll mode files fs).file p = some (c, mode) := by
  induction files generalizing fs with
  | nil => cases hm
  | cons x rest ih =>
    obtain ⟨p', c'⟩ := x
    rw [paths_cons, List.nodup_cons] at hnd
    rw [putAll_cons]
    rcases List.mem_cons.mp hm with heq | hm'
    · cases heq
      rw [putAll_file_of_not_mem mode hnd.1]
      exact commit_file_self fs p _
    · exact ih hnd.2 hm' _

theorem putAll_take_file (mode : Nat) {files : Tree} (hnd : (paths files).Nodup) {n : Nat} {p : Path} {c : List Nat}
    (hn : files[n]? = some (p, c)) (i : Nat) (fs : FS) :
    (putAll mode (files.take i) fs).file p = if n < i then some (c, mode) else fs.file p := by
  have hnd' : (paths (files.take i)).Nodup := hnd.sublist ((List.take_sublist i files).map _)
  split
  · rename_i hlt
    exact putAll_file_of_mem mode hnd' (List.mem_of_getElem? ((List.getElem?_take_of_lt hlt).trans hn)) fs
  · refine putAll_file_of_not_mem mode (fun hm => ?_) fs
    obtain ⟨m, hm⟩ := List.mem_iff_getElem?.mp hm
    rw [paths, List.map_take, List.getElem?_take] at hm
    split at hm
    · have := hnd.eq_of_getElem? hm (paths_getElem? hn); omega
    · cases hm

theorem runOK_enter (steps : List Step) (cl : List Cleanup) (mode : Nat) (h : completes steps cl mode = true)
    (fs : FS) (p : Path) (c : List Nat) :
    runOK c steps cl (fs.enter p) = { st := { dest := some (c, mode), tmp := none }, reported := false } :=
  rerun_completes_of steps cl mode h (fs.file p) c

theorem installTree_eq (steps : List Step) (cl : List Cleanup) (mode : Nat) (h : completes steps cl mode = true)
    (files : Tree) (fs : FS) : installTree steps cl files fs = (putAll mode files fs, false) := by
  induction files generalizing fs with
  | nil => rfl
  | cons x rest ih =>
    obtain ⟨p, c⟩ := x
    simp only [installTree, runOK_enter steps cl mode h, Bool.false_eq_true, if_false]
    exact ih _

theorem crashTree_putAll (steps : List Step) (cl : List Cleanup) (mode : Nat) (h : completes steps cl mode = true)
    (k j : Nat) (files : Tree) (i : Nat) (fs : FS) :
    crashTree steps cl k j files i fs =
      match files[i]? with
      | some (p, c) =>
        (putAll mode (files.take i) fs).commit p (runCrash c steps k j ((putAll mode (files.take i) fs).enter p))
      | none => putAll mode files fs := by
  induction files generalizing i fs with
  | nil => rfl
  | cons x rest ih =>
    obtain ⟨p, c⟩ := x
    cases i with
    | zero => rfl
    | succ i' =>
      simp only [crashTree, runOK_enter steps cl mode h, Bool.false_eq_true, if_false]
      exact ih i' _

theorem faultTree_eq (steps : List Step) (cl : List Cleanup) (mode : Nat)
    (hf : faultSafe steps cl = true) (h : completes steps cl mode = true) (k j : Nat) (hk : k < steps.length)
    (files : Tree) (i : Nat) (fs : FS) (hi : i < files.length) :
    faultTree steps cl k j files i fs = (putAll mode (files.take i) fs, true) := by
  induction files generalizing i fs with
  | nil => exact absurd hi (Nat.not_lt_zero _)
  | cons x rest ih =>
    obtain ⟨p, c⟩ := x
    cases i with
    | zero =>
      obtain ⟨f1, f2, f3⟩ := fault_clean_of_safe steps cl hf (fs.file p) c k j hk
      have hst : (runFail c steps cl k j (fs.enter p)).st = { dest := fs.file p, tmp := none } :=
        (congr (congrArg St.mk f2) f3 : St.mk _ _ = St.mk _ _)
      simp only [faultTree, FS.enter, f1, if_true] at hst ⊢
      rw [hst, commit_enter]; rfl
    | succ i' =>
      simp only [faultTree, runOK_enter steps cl mode h, Bool.false_eq_true, if_false]
      exact ih i' _ (Nat.lt_of_succ_lt_succ hi)

/-! ## Complete walk -/

/-- **C16 (content + frame).** -/
theorem tree_install_exact (steps : List Step) (cl : List Cleanup) (mode : Nat)
    (h : completes steps cl mode = true) (files : Tree) (hnd : (paths files).Nodup) (fs : FS) :
    (installTree steps cl files fs).2 = false ∧
    (∀ p c, (p, c) ∈ files → (installTree steps cl files fs).1.file p = some (c, mode)) ∧
    (∀ q, q ∉ paths files → (installTree steps cl files fs).1.file q = fs.file q) ∧
    (installTree steps cl files fs).1.temps = fs.temps := by
  rw [installTree_eq steps cl mode h]
  exact ⟨rfl, fun _ _ hm => putAll_file_of_mem mode hnd hm fs, fun _ hq => putAll_file_of_not_mem mode hq fs,
    putAll_temps mode files fs⟩

/-! ## Crash -/

theorem crashTree_file (steps : List Step) (cl : List Cleanup) (mode : Nat) (h : completes steps cl mode = true)
    {files : Tree} (hnd : (paths files).Nodup) (fs : FS) (i k j : Nat) {n : Nat} {p : Path} {c : List Nat}
    (hn : files[n]? = some (p, c)) :
    (crashTree steps cl k j files i fs).file p =
      if n = i then (runCrash c steps k j (fs.enter p)).dest else if n < i then some (c, mode) else fs.file p := by
  rw [crashTree_putAll steps cl mode h]
  cases hi : files[i]? with
  | none =>
    have hlt : n < i := Nat.lt_of_lt_of_le (List.getElem?_eq_some_iff.mp hn).1 (List.getElem?_eq_none_iff.mp hi)
    rw [if_neg (Nat.ne_of_lt hlt), if_pos hlt]
    exact putAll_file_of_mem mode hnd (List.mem_of_getElem? hn) fs
  | some x =>
    obtain ⟨pi, ci⟩ := x
    by_cases hni : n = i
    · subst hni
      cases hi.symm.trans hn
      rw [if_pos rfl, commit_file_self, FS.enter, putAll_take_file mode hnd hn n fs, if_neg (Nat.lt_irrefl _)]
      rfl
    · have hne : p ≠ pi := fun e => hni (hnd.eq_of_getElem? (paths_getElem? hn) (e ▸ paths_getElem? hi))
      rw [if_neg hni, commit_file_other _ _ _ _ hne, putAll_take_file mode hnd hn i fs]

theorem crashTree_file_of_not_mem (steps : List Step) (cl : List Cleanup) (mode : Nat)
    (h : completes steps cl mode = true) (files : Tree) (fs : FS) (i k j : Nat) {q : Path} (hq : q ∉ paths files) :
    (crashTree steps cl k j files i fs).file q = fs.file q := by
  rw [crashTree_putAll steps cl mode h]
  split
  · rename_i p c hi
    have hne : q ≠ p := fun e => hq (e ▸ mem_paths_of_mem (List.mem_of_getElem? hi))
    rw [commit_file_other _ _ _ _ hne]
    exact putAll_take_file_of_not_mem mode hq i fs
  · exact putAll_file_of_not_mem mode hq fs

/-- **C15 (crash) at tree level.**  The process dies while installing file number `i`, after `k` steps /
    `j` bytes of that `InstallFile` call.  Then EVERY destination file of the tree is either exactly its
    previous state or the complete new content with mode `mode` (more precisely: files before `i` are new,
    file `i` is one of the two, files after `i` are previous); paths outside the tree are unchanged;
    earlier temp garbage is untouched and at most one temp file is added. -/
theorem tree_crash_atomic (steps : List Step) (cl : List Cleanup) (mode : Nat)
    (hs : crashSafe steps mode = true) (h : completes steps cl mode = true)
    (files : Tree) (hnd : (paths files).Nodup) (fs : FS) (i k j : Nat) :
    (∀ p c, (p, c) ∈ files →
      (crashTree steps cl k j files i fs).file p = fs.file p ∨
      (crashTree steps cl k j files i fs).file p = some (c, mode)) ∧
    (∀ n p c, files[n]? = some (p, c) →
      (n < i → (crashTree steps cl k j files i fs).file p = some (c, mode)) ∧
      (i < n → (crashTree steps cl k j files i fs).file p = fs.file p)) ∧
    (∀ q, q ∉ paths files → (crashTree steps cl k j files i fs).file q = fs.file q) ∧
    (∃ l, (crashTree steps cl k j files i fs).temps = l ++ fs.temps ∧ l.length ≤ 1) := by
  refine ⟨fun p c hm => ?_, fun n p c hn => ?_,
    fun q hq => crashTree_file_of_not_mem steps cl mode h files fs i k j hq, ?_⟩
  · obtain ⟨n, hn⟩ := List.mem_iff_getElem?.mp hm
    rw [crashTree_file steps cl mode h hnd fs i k j hn]
    split
    · exact crash_atomic_of_safe steps mode hs (fs.file p) c k j
    · split
      · exact .inr rfl
      · exact .inl rfl
  · rw [crashTree_file steps cl mode h hnd fs i k j hn]
    exact ⟨fun hlt => by rw [if_neg (Nat.ne_of_lt hlt), if_pos hlt],
      fun hlt => by rw [if_neg (Nat.ne_of_gt hlt), if_neg (Nat.lt_asymm hlt)]⟩
  · rw [crashTree_putAll steps cl mode h]
    rcases files[i]? with _ | ⟨pi, ci⟩
    · exact ⟨[], putAll_temps mode files fs, Nat.zero_le _⟩
    · obtain ⟨l, e, hl⟩ := commit_temps_grow (putAll mode (files.take i) fs) pi
        (runCrash ci steps k j ((putAll mode (files.take i) fs).enter pi))
      exact ⟨l, e.trans (congrArg (l ++ ·) (putAll_temps mode _ fs)), hl⟩

/-- **C15 (a later complete run finishes the installation) at tree level.**  From the state left by a
    crash at any `(i, k, j)`, a complete run reports success, installs every file of the tree with its
    content and mode `mode`, leaves every path outside the tree as it was before the crashed run, and adds
    no temp file (garbage of the crashed run is a different name and stays). -/
theorem tree_rerun_completes (steps : List Step) (cl : List Cleanup) (mode : Nat)
    (h : completes steps cl mode = true)
    (files : Tree) (hnd : (paths files).Nodup) (fs : FS) (i k j : Nat) :
    (installTree steps cl files (crashTree steps cl k j files i fs)).2 = false ∧
    (∀ p c, (p, c) ∈ files →
      (installTree steps cl files (crashTree steps cl k j files i fs)).1.file p = some (c, mode)) ∧
    (∀ q, q ∉ paths files →
      (installTree steps cl files (crashTree steps cl k j files i fs)).1.file q = fs.file q) ∧
    (installTree steps cl files (crashTree steps cl k j files i fs)).1.temps =
      (crashTree steps cl k j files i fs).temps := by
  obtain ⟨h1, h2, h3, h4⟩ := tree_install_exact steps cl mode h files hnd (crashTree steps cl k j files i fs)
  exact ⟨h1, h2, fun q hq => (h3 q hq).trans (crashTree_file_of_not_mem steps cl mode h files fs i k j hq), h4⟩

/-! ## Single injected failure -/

/-- **C15 (single injected failure) at tree level.**  Step `k` of the `InstallFile` call for file number
    `i` fails (`j` bytes of a failing write got through).  Then `Install` reports an error, no temp file of
    this run is left, file `i`'s destination is its previous state, files before `i` are new, files after
    `i` are previous, and paths outside the tree are unchanged. -/
theorem tree_fault_clean (steps : List Step) (cl : List Cleanup) (mode : Nat)
    (hf : faultSafe steps cl = true) (h : completes steps cl mode = true)
    (files : Tree) (hnd : (paths files).Nodup) (fs : FS) (i k j : Nat)
    (hi : i < files.length) (hk : k < steps.length) :
    (faultTree steps cl k j files i fs).2 = true ∧
    (faultTree steps cl k j files i fs).1.temps = fs.temps ∧
    (∀ n p c, files[n]? = some (p, c) →
      (n < i → (faultTree steps cl k j files i fs).1.file p = some (c, mode)) ∧
      (n = i → (faultTree steps cl k j files i fs).1.file p = fs.file p) ∧
      (i < n → (faultTree steps cl k j files i fs).1.file p = fs.file p)) ∧
    (∀ q, q ∉ paths files → (faultTree steps cl k j files i fs).1.file q = fs.file q) := by
  rw [faultTree_eq steps cl mode hf h k j hk files i fs hi]
  refine ⟨rfl, putAll_temps mode _ fs, fun n p c hn => ?_, fun q hq => ?_⟩
  · show (_ → (putAll mode (files.take i) fs).file p = _) ∧ (_ → (putAll mode (files.take i) fs).file p = _) ∧
      (_ → (putAll mode (files.take i) fs).file p = _)
    rw [putAll_take_file mode hnd hn i fs]
    exact ⟨fun hlt => if_pos hlt, fun e => if_neg (e ▸ Nat.lt_irrefl n), fun hlt => if_neg (Nat.lt_asymm hlt)⟩
  · exact putAll_take_file_of_not_mem mode hq i fs

/-! ## The walk as prefix / crashed file / untouched suffix (sanity link to the informal description) -/

/-- the crashed walk is: complete runs on the first `i` files, then `runCrash` on file `i` -/
theorem crashTree_eq (steps : List Step) (cl : List Cleanup) (mode : Nat) (h : completes steps cl mode = true)
    (k j : Nat) : ∀ (files : Tree) (i : Nat) (fs : FS),
      crashTree steps cl k j files i fs =
        match files[i]? with
        | some (p, c) =>
          (installTree steps cl (files.take i) fs).1.commit p
            (runCrash c steps k j ((installTree steps cl (files.take i) fs).1.enter p))
        | none => (installTree steps cl files fs).1 := by
  intro files i fs
  simp only [installTree_eq steps cl mode h]
  exact crashTree_putAll steps cl mode h k j files i fs

end Inst
