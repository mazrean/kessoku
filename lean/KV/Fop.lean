import KV.Plan2
import KV.ListLemmas
/-! `findOptimalPool` (graph.go): what its first loop computes (`fopCands_spec`) and where the chosen pool comes from
    (`findOptimalPool2_cases`: pool 0, a candidate of the first loop, or an empty pool); hence the chosen pool index
    is valid (`findOptimalPool2_lt`), and a synchronous node never opens an empty pool while a non-empty one exists
    (`findOptimalPool2_sync`). -/
namespace KV

/-! ### the first loop -/

def fopCount (deps : List Nat) (pp : List (List Nat)) (i : Nat) : Nat :=
  (deps.filter (fun d => (pp.getD i []).contains d)).length

/-- the first loop looks at pool `i`: it skips the empty pools for a synchronous node -/
def fopElig (async : Bool) (pools : List (List Nat)) (i : Nat) : Bool := async || !(pools.getD i []).isEmpty

/-- a pool with a larger count starts the candidates afresh; otherwise the maximum stays and the pool joins the candidates
    if it attains it -/
theorem fopStep_eq (deps : List Nat) (async : Bool) (pools pp : List (List Nat)) (acc : Nat × List Nat) (i : Nat) :
    fopStep deps async pools pp acc i =
      if fopElig async pools i = true ∧ acc.1 < fopCount deps pp i then (fopCount deps pp i, [i])
      else (acc.1, acc.2 ++ if fopElig async pools i = true ∧ fopCount deps pp i = acc.1 then [i] else []) := by
  have hE : (!async && (pools.getD i []).isEmpty) = !fopElig async pools i := by
    unfold fopElig; cases async <;> cases (pools.getD i []).isEmpty <;> rfl
  show (if (!async && (pools.getD i []).isEmpty) = true then acc
    else if acc.1 < fopCount deps pp i then (fopCount deps pp i, [i])
    else if (fopCount deps pp i == acc.1) = true then (acc.1, acc.2 ++ [i]) else acc) = _
  rw [hE]
  cases fopElig async pools i
  · exact Prod.ext rfl (List.append_nil _).symm
  · simp only [Bool.not_true, Bool.false_eq_true, if_false, true_and, beq_iff_eq]
    by_cases h1 : acc.1 < fopCount deps pp i
    · rw [if_pos h1, if_pos h1]
    · by_cases h2 : fopCount deps pp i = acc.1
      · rw [if_neg h1, if_neg h1, if_pos h2, if_pos h2]
      · rw [if_neg h1, if_neg h1, if_neg h2, if_neg h2, List.append_nil]

/-- What the first loop has computed from the pools `seen`: `acc.1` is the largest count of an eligible pool
    (0 if there is none, so `(0, [])` stands for "no eligible pool"), and `acc.2` lists the eligible pools that
    attain it, in the order seen.  With `acc.1 = 0` that is every eligible pool. -/
structure FopCands (deps : List Nat) (async : Bool) (pools pp : List (List Nat)) (seen : List Nat)
    (acc : Nat × List Nat) : Prop where
  cands : acc.2 = seen.filter (fun i => fopElig async pools i && fopCount deps pp i == acc.1)
  ge : ∀ i ∈ seen, fopElig async pools i = true → fopCount deps pp i ≤ acc.1
  attained : acc.1 ≠ 0 → ∃ i ∈ seen, fopElig async pools i = true ∧ fopCount deps pp i = acc.1

theorem fopStep_cands {deps : List Nat} {async : Bool} {pools pp : List (List Nat)} {seen : List Nat}
    {acc : Nat × List Nat} (h : FopCands deps async pools pp seen acc) (x : Nat) :
    FopCands deps async pools pp (seen ++ [x]) (fopStep deps async pools pp acc x) := by
  have hge : ∀ b, acc.1 ≤ b → (fopElig async pools x = true → fopCount deps pp x ≤ b) →
      ∀ i ∈ seen ++ [x], fopElig async pools i = true → fopCount deps pp i ≤ b := by
    intro b hb hx i hi hei
    rcases List.mem_append.mp hi with hi | hi
    · exact Nat.le_trans (h.ge i hi hei) hb
    · rw [List.mem_singleton.mp hi] at hei ⊢; exact hx hei
  have hcands : ∀ b, (seen ++ [x]).filter (fun i => fopElig async pools i && fopCount deps pp i == b) =
      seen.filter (fun i => fopElig async pools i && fopCount deps pp i == b) ++
        if fopElig async pools x = true ∧ fopCount deps pp x = b then [x] else [] := by
    intro b
    simp only [List.filter_append, List.filter_cons, List.filter_nil, Bool.and_eq_true, beq_iff_eq]
  rw [fopStep_eq]
  split
  · -- no pool seen so far has this count
    rename_i hc
    refine ⟨?_, hge _ (Nat.le_of_lt hc.2) fun _ => Nat.le_refl _,
      fun _ => ⟨x, List.mem_append_right _ (List.mem_singleton_self x), hc.1, rfl⟩⟩
    have : seen.filter (fun i => fopElig async pools i && fopCount deps pp i == fopCount deps pp x) = [] :=
      List.filter_eq_nil_iff.mpr fun i hi hci => by
        rw [Bool.and_eq_true, beq_iff_eq] at hci
        have := h.ge i hi hci.1; omega
    show [x] = _
    rw [hcands, this, if_pos ⟨hc.1, rfl⟩]; rfl
  · -- the maximum stays
    rename_i hc
    exact ⟨by rw [hcands, ← h.cands], hge _ (Nat.le_refl _) fun he => Nat.le_of_not_lt fun hlt => hc ⟨he, hlt⟩,
      fun h0 => (h.attained h0).imp fun i hi => ⟨List.mem_append_left _ hi.1, hi.2⟩⟩

theorem fopCands_spec (deps : List Nat) (async : Bool) (pools pp : List (List Nat)) :
    FopCands deps async pools pp (List.range pools.length) (fopCands deps async pools pp) :=
  List.foldl_prefix_induction _ (FopCands deps async pools pp) _
    ⟨rfl, fun _ hi => (nomatch hi), (absurd rfl ·)⟩ fun _ x _ _ _ h => fopStep_cands h x

theorem mem_fopCands_iff {deps : List Nat} {async : Bool} {pools pp : List (List Nat)} {i : Nat} :
    i ∈ (fopCands deps async pools pp).2 ↔ i < pools.length ∧ fopElig async pools i = true ∧
      fopCount deps pp i = (fopCands deps async pools pp).1 := by
  conv => lhs; rw [(fopCands_spec deps async pools pp).cands]
  simp only [List.mem_filter, List.mem_range, Bool.and_eq_true, beq_iff_eq]

theorem fopCands_nil {deps : List Nat} {async : Bool} {pools pp : List (List Nat)}
    (h : (fopCands deps async pools pp).2 = []) {i : Nat} (hi : i < pools.length) : fopElig async pools i = false := by
  have hs := fopCands_spec deps async pools pp
  have hnot : ∀ j, j ∉ (fopCands deps async pools pp).2 := fun j hj => by rw [h] at hj; cases hj
  -- a maximum other than 0 is attained by a candidate
  have h0 : (fopCands deps async pools pp).1 = 0 := Classical.byContradiction fun hne => by
    obtain ⟨j, hj, hje, hjc⟩ := hs.attained hne
    exact hnot j (mem_fopCands_iff.mpr ⟨List.mem_range.mp hj, hje, hjc⟩)
  cases he : fopElig async pools i with
  | false => rfl
  | true =>
    have := hs.ge i (List.mem_range.mpr hi) he
    exact absurd (mem_fopCands_iff.mpr ⟨hi, he, by omega⟩) (hnot i)

/-! ### the pool loop and the size heuristic -/

/-- the pool loop returns the first candidate that it accepts: any, for a synchronous node; for an Async node one
    that provides a dependency behind its last Async node, or pool 0 if that holds neither -/
theorem fopLoop_eq_find? (g : Graph) (deps : List Nat) (async : Bool) (pools : List (List Nat)) (l : List Nat) :
    fopLoop g deps async pools l = l.find? fun p =>
      !async || fopScan g deps (pools.getD p []).reverse == 1 ||
        (fopScan g deps (pools.getD p []).reverse == 0 && p == 0) := by
  induction l with
  | nil => rfl
  | cons p ps ih =>
    rw [fopLoop, List.find?_cons, ih]
    cases async
    · rfl
    · simp only [Bool.not_true, Bool.false_eq_true, if_false, Bool.false_or]
      split
      · rename_i h1; rw [h1]; rfl
      · rename_i h0
        rw [h0]
        cases hp : p == 0
        · rfl
        · rw [eq_of_beq hp]; rfl
      · rename_i h1 h0
        rw [beq_false_of_ne h1, beq_false_of_ne h0]; rfl

theorem fopLoop_mem (g : Graph) (deps : List Nat) (async : Bool) (pools : List (List Nat)) (l : List Nat) (p : Nat)
    (h : fopLoop g deps async pools l = some p) : p ∈ l :=
  List.mem_of_find?_eq_some (fopLoop_eq_find? g deps async pools l ▸ h)

theorem fopLoop_sync (g : Graph) (deps : List Nat) (pools : List (List Nat)) (x : Nat) (xs : List Nat) :
    fopLoop g deps false pools (x :: xs) = some x := by
  rw [fopLoop_eq_find?]; rfl

theorem fopMin_mem (async : Bool) (pools : List (List Nat)) (l : List Nat) (acc : Option Nat × Nat) :
    (l.foldl (fopMinStep async pools) acc).2 = acc.2 ∨ (l.foldl (fopMinStep async pools) acc).2 ∈ l := by
  induction l generalizing acc with
  | nil => exact Or.inl rfl
  | cons x xs ih =>
    simp only [List.foldl_cons]
    have hs : (fopMinStep async pools acc x).2 = acc.2 ∨ (fopMinStep async pools acc x).2 = x := by
      simp only [fopMinStep]
      split
      · exact Or.inl rfl
      · split
        · exact Or.inr rfl
        · split
          · exact Or.inr rfl
          · exact Or.inl rfl
    rcases ih (fopMinStep async pools acc x) with h | h
    · rcases hs with hs | hs
      · exact Or.inl (h.trans hs)
      · exact Or.inr (by rw [h, hs]; exact List.mem_cons_self ..)
    · exact Or.inr (List.mem_cons_of_mem _ h)

theorem fopMin_mem_of_elig {async : Bool} {pools : List (List Nat)} {l : List Nat}
    (hl : ∀ p ∈ l, fopElig async pools p = true) (hne : l ≠ []) :
    (l.foldl (fopMinStep async pools) (none, 0)).2 ∈ l := by
  cases l with
  | nil => exact absurd rfl hne
  | cons x xs =>
    -- the first step takes `x`; afterwards the choice stays in the list
    have h1 : fopMinStep async pools (none, 0) x = (some (pools.getD x []).length, x) := by
      have hx : (!async && (pools.getD x []).length == 0) = false := by
        have := hl x List.mem_cons_self
        rw [fopElig] at this
        cases async
        · cases hp : pools.getD x [] with
          | nil => rw [hp] at this; cases this
          | cons a as => rfl
        · rfl
      simp only [fopMinStep, hx, Bool.false_eq_true, ↓reduceIte]
    rw [List.foldl_cons, h1]
    rcases fopMin_mem async pools xs (some (pools.getD x []).length, x) with h | h
    · rw [h]; exact List.mem_cons_self
    · exact List.mem_cons_of_mem _ h

/-- where the chosen pool comes from: pool 0 when the first loop finds no candidate; else a candidate, accepted by the
    pool loop or (no empty pool being there for an Async node) the smallest; else an empty pool, for an Async node -/
theorem findOptimalPool2_cases (g : Graph) (n : Nat) (pools pp : List (List Nat)) :
    ((fopCands (g.rev.getD n []) (isAsyncNode g n) pools pp).2 = [] ∧ findOptimalPool2 g n pools pp = 0) ∨
    (findOptimalPool2 g n pools pp ∈ (fopCands (g.rev.getD n []) (isAsyncNode g n) pools pp).2 ∧
      (fopLoop g (g.rev.getD n []) (isAsyncNode g n) pools (fopCands (g.rev.getD n []) (isAsyncNode g n) pools pp).2 =
          some (findOptimalPool2 g n pools pp) ∨
        (isAsyncNode g n = true → ∀ i, i < pools.length → (pools.getD i []).isEmpty = false))) ∨
    (isAsyncNode g n = true ∧ findOptimalPool2 g n pools pp < pools.length ∧
      (pools.getD (findOptimalPool2 g n pools pp) []).isEmpty = true) := by
  simp only [findOptimalPool2]
  split
  · rename_i h0
    exact Or.inl ⟨List.isEmpty_iff.mp h0, rfl⟩
  · rename_i hne
    right
    split
    · rename_i p hp
      split at hp
      · exact Or.inl ⟨fopLoop_mem _ _ _ _ _ _ hp, Or.inl hp⟩
      · cases hp
    · split
      · rename_i i hi
        split at hi
        · rename_i ha
          exact Or.inr ⟨ha, List.mem_range.mp (List.mem_of_find?_eq_some hi), List.find?_some (p := fun i => (pools.getD i []).isEmpty) hi⟩
        · cases hi
      · rename_i hnone
        refine Or.inl ⟨fopMin_mem_of_elig (fun p hp => (mem_fopCands_iff.mp hp).2.1)
          fun h => hne (List.isEmpty_iff.mpr h), Or.inr fun ha i hi => ?_⟩
        rw [if_pos ha] at hnone
        exact Bool.eq_false_iff.mpr (List.find?_eq_none.mp hnone i (List.mem_range.mpr hi))

/-! ### `range` and `sync-no-open`

Of the three facts DESIGN.md §3.2 asks of the pool choice, these two are what the safety proofs use.  The third,
`sync-follows-deps`, is `findOptimalPool2_single_dep` at the end of this file (single-dependency nodes only); no proof
uses it. -/

/-- **range**: the chosen pool index is valid -/
theorem findOptimalPool2_lt (g : Graph) (n : Nat) (pools pp : List (List Nat)) (hk : 0 < pools.length) :
    findOptimalPool2 g n pools pp < pools.length := by
  rcases findOptimalPool2_cases g n pools pp with ⟨_, h⟩ | ⟨h, _⟩ | ⟨_, h, _⟩
  · rw [h]; exact hk
  · exact (mem_fopCands_iff.mp h).1
  · exact h

/-- **sync-no-open**: a synchronous node never opens an empty pool unless every pool is empty -/
theorem findOptimalPool2_sync (g : Graph) (n : Nat) (pools pp : List (List Nat))
    (hs : isAsyncNode g n = false) :
    (pools.getD (findOptimalPool2 g n pools pp) []).isEmpty = false ∨
    (∀ i, i < pools.length → (pools.getD i []).isEmpty = true) := by
  -- for a synchronous node "eligible" means "not empty"
  have helig : ∀ i b, fopElig (isAsyncNode g n) pools i = b → (pools.getD i []).isEmpty = !b := by
    intro i b h
    rw [← h, hs, fopElig, Bool.false_or, Bool.not_not]
  rcases findOptimalPool2_cases g n pools pp with ⟨h0, _⟩ | ⟨h, _⟩ | ⟨ha, _⟩
  · exact Or.inr fun i hi => helig i false (fopCands_nil h0 hi)
  · exact Or.inl (helig _ true (mem_fopCands_iff.mp h).2.1)
  · rw [hs] at ha; cases ha

/-! ### an Async node without dependencies (the placement half of C05) -/

theorem fopCands_zero (pools pp : List (List Nat)) :
    fopCands [] true pools pp = (0, List.range pools.length) := by
  have hs := fopCands_spec [] true pools pp
  have h0 : (fopCands [] true pools pp).1 = 0 := Classical.byContradiction fun hne => by
    obtain ⟨_, _, _, hc⟩ := hs.attained hne
    exact hne hc.symm
  refine Prod.ext h0 ?_
  rw [hs.cands, h0]
  exact List.filter_eq_self.mpr fun _ _ => rfl

theorem fopScan_nil (g : Graph) (l : List Nat) : fopScan g [] l = if l.any (isAsyncNode g) then 2 else 0 := by
  induction l with
  | nil => rfl
  | cons x xs ih =>
    rw [fopScan, List.any_cons, ih]
    cases isAsyncNode g x <;> rfl

theorem fopLoop_nil (g : Graph) (pools : List (List Nat)) (l : List Nat) (p : Nat)
    (h : fopLoop g [] true pools l = some p) : p = 0 ∧ ∀ m ∈ pools.getD 0 [], isAsyncNode g m = false := by
  rw [fopLoop_eq_find?] at h
  have hp := List.find?_some h
  rw [fopScan_nil] at hp
  split at hp
  · cases hp
  · rename_i hany
    have hp0 : p = 0 := eq_of_beq hp
    rw [List.any_reverse, hp0] at hany
    exact ⟨hp0, fun m hm => Bool.eq_false_iff.mpr fun ha => hany (List.any_eq_true.mpr ⟨m, hm, ha⟩)⟩

/-- **placement of a dependency-free Async node**: pool 0, which then holds no Async node, or an empty pool; only if
    no pool is empty does the size heuristic decide -/
theorem findOptimalPool2_async_zero (g : Graph) (n : Nat) (pools pp : List (List Nat))
    (ha : isAsyncNode g n = true) (hz : g.rev.getD n [] = []) (hk : 0 < pools.length) :
    (findOptimalPool2 g n pools pp = 0 ∧ ∀ m ∈ pools.getD 0 [], isAsyncNode g m = false) ∨
    (pools.getD (findOptimalPool2 g n pools pp) [] = []) ∨
    (∀ i, i < pools.length → pools.getD i [] ≠ []) := by
  rcases findOptimalPool2_cases g n pools pp with ⟨h0, _⟩ | ⟨_, hl | hfull⟩ | ⟨_, _, he⟩
  · -- every pool is a candidate, and there is one
    rw [hz, ha, fopCands_zero] at h0
    exact absurd (List.range_eq_nil.mp h0) (Nat.ne_of_gt hk)
  · rw [hz, ha, fopCands_zero] at hl
    exact Or.inl (fopLoop_nil g pools _ _ hl)
  · exact Or.inr (Or.inr fun i hi hemp => by have := hfull ha i hi; rw [hemp] at this; cases this)
  · exact Or.inr (Or.inl (List.isEmpty_iff.mp he))

/-! ### a synchronous node with a single dependency (`sync-follows-deps` for the field-access nodes of a struct provider) -/

theorem fopCands_single (d : Nat) (pools pp : List (List Nat)) (q : Nat) (hq : q < pools.length)
    (hqne : (pools.getD q []).isEmpty = false)
    (hin : (pp.getD q []).contains d = true)
    (hout : ∀ i, i < pools.length → i ≠ q → (pp.getD i []).contains d = false) :
    ∀ i, i ∈ (fopCands [d] false pools pp).2 ↔ i = q := by
  have hs := fopCands_spec [d] false pools pp
  have hcq : fopCount [d] pp q = 1 := by simp only [fopCount, List.filter_cons, hin, ↓reduceIte]; rfl
  have hco : ∀ i, i < pools.length → i ≠ q → fopCount [d] pp i = 0 :=
    fun i hi hne => by simp only [fopCount, List.filter_cons, hout i hi hne, Bool.false_eq_true, ↓reduceIte]; rfl
  have heq : fopElig false pools q = true := by rw [fopElig, hqne]; rfl
  have hge := hs.ge q (List.mem_range.mpr hq) heq
  -- the maximum is at least `q`'s count 1, and it is attained, by a pool whose count is 0 or 1
  have h1 : (fopCands [d] false pools pp).1 = 1 := by
    obtain ⟨i, hi, _, hc⟩ := hs.attained (by omega)
    by_cases hiq : i = q
    · rw [← hc, hiq, hcq]
    · rw [hco i (List.mem_range.mp hi) hiq] at hc; omega
  intro i
  rw [mem_fopCands_iff, h1]
  constructor
  · rintro ⟨hi, _, hc⟩
    exact Classical.byContradiction fun hne => by rw [hco i hi hne] at hc; cases hc
  · rintro rfl; exact ⟨hq, heq, hcq⟩

/-- a synchronous node whose single dependency sits in pool `q` (and only there) is placed in pool `q` -/
theorem findOptimalPool2_single_dep (g : Graph) (n d : Nat) (pools pp : List (List Nat)) (q : Nat)
    (hs : isAsyncNode g n = false) (hrev : g.rev.getD n [] = [d]) (hq : q < pools.length)
    (hqne : (pools.getD q []).isEmpty = false)
    (hin : (pp.getD q []).contains d = true)
    (hout : ∀ i, i < pools.length → i ≠ q → (pp.getD i []).contains d = false) :
    findOptimalPool2 g n pools pp = q := by
  -- `q` is the only candidate of the first loop, and a synchronous node is placed in a candidate
  have hmem := fopCands_single d pools pp q hq hqne hin hout
  rcases findOptimalPool2_cases g n pools pp with ⟨h0, _⟩ | ⟨h, _⟩ | ⟨ha, _⟩
  · rw [hrev, hs] at h0
    exact nomatch h0 ▸ (hmem q).mpr rfl
  · rw [hrev, hs] at h
    exact (hmem _).mp h
  · rw [hs] at ha; cases ha

end KV
