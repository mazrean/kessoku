import KV.Accept
import KV.CallsValue
import KV.SupPerm
/-! C02: reordering the providers of a declaration changes neither acceptance nor the value.  Positions in the
    (expanded) provider list change when the declaration is permuted, so values are compared through
    position-independent labels (`LVal`, `label`): the label of a provider is `(decl, fieldName)`.  Both orders apply
    the same providers (`perm_suppliers`, KV/SupPerm.lean), hence compute the same label-based value (`perm_value`),
    and the acyclicity criterion of `accepted_iff_acyclic`, read on type keys, is the same (`perm_accept'`).  Struct
    expansion iterates to a fixpoint (`pass2` in KV/Plan.lean), so no proviso on the order of the struct expansions is
    needed (`PermExamples.nested_both_accepted`). -/
namespace KV

/-- values with position-independent provider identities: `(decl, fieldName)` instead of a position -/
inductive LVal where
  | arg (t : Nat)
  | app (decl : Nat) (field : String) (gi : Nat) (args : List LVal)

mutual
/-- replace every provider position by the label of the provider at that position -/
def label (provs : List PSpec) : Val → LVal
  | .arg t => .arg t
  | .app p gi args => .app (provs.getD p default).decl (provs.getD p default).fieldName gi (labelL provs args)
def labelL (provs : List PSpec) : List Val → List LVal
  | [] => []
  | v :: vs => label provs v :: labelL provs vs
end

/-- two evaluations of the same key over supplier maps that agree key by key (`SameSup`) apply, at every step, the
    same provider: equal `PSpec`s, hence equal labels and equal requirements to go on with -/
theorem label_labelL_eval_eq {provs' provs : List PSpec} {sup' sup : SupMap}
    (hsame : ∀ t, SameSup provs' sup' provs sup t) :
    (∀ {t : Nat} {v' : Val}, Eval provs' sup' t v' → ∀ v, Eval provs sup t v → label provs' v' = label provs v) ∧
    (∀ {ts : List Nat} {vs' : List Val}, EvalL provs' sup' ts vs' → ∀ vs, EvalL provs sup ts vs →
      labelL provs' vs' = labelL provs vs) := by
  refine Eval.induct ?_ ?_ ?_ ?_
  · intro t hl' v h
    cases h with
    | arg _ => rfl
    | app hl _ =>
      obtain ⟨_, h2, _⟩ := (hsame t).symm.some hl
      rw [hl'] at h2; cases h2
  · intro t p' gi vs' hl' ih v h
    obtain ⟨p, hl, hpp⟩ := (hsame t).some hl'
    cases h with
    | arg hn => rw [hl] at hn; cases hn
    | app hl2 hs =>
      rw [hl] at hl2; cases hl2
      simp only [label]
      rw [hpp, ih _ (hpp ▸ hs)]
  · intro vs h; cases h; rfl
  · intro t ts v' vs' ih1 ih2 vs h
    cases h with
    | cons h1 h2 => simp only [labelL]; rw [ih1 _ h1, ih2 _ h2]

theorem labelL_eval_eq {provs' provs : List PSpec} {sup' sup : SupMap}
    (hsame : ∀ t, SameSup provs' sup' provs sup t) :
    ∀ {ts : List Nat} {vs' vs : List Val}, EvalL provs' sup' ts vs' → EvalL provs sup ts vs →
      labelL provs' vs' = labelL provs vs :=
  fun h' h => (label_labelL_eval_eq hsame).2 h' _ h

theorem perm_value {provs0' provs0 provs' provs : List PSpec} {sup' sup : SupMap} (hperm : provs0'.Perm provs0)
    (hs' : supplierMap provs0' = .ok (provs', sup')) (hs : supplierMap provs0 = .ok (provs, sup))
    {t : Nat} {v' v : Val} (he' : Eval provs' sup' t v') (he : Eval provs sup t v) :
    label provs' v' = label provs v :=
  (label_labelL_eval_eq (perm_suppliers hperm hs' hs)).1 he' _ he

theorem perm_returned_value {provs0' provs0 : List PSpec} {ret : Nat} {p' p : PlanOut} (hperm : provs0'.Perm provs0)
    (hp' : plan provs0' ret = .ok p') (hp : plan provs0 ret = .ok p) :
    ∃ x' x, VarVal p' p'.b.retParam x' ∧ (∀ y, VarVal p' p'.b.retParam y → y = x') ∧ GraphVal p'.g x' ∧
      VarVal p p.b.retParam x ∧ (∀ y, VarVal p p.b.retParam y → y = x) ∧ GraphVal p.g x ∧
      label p'.g.provs x' = label p.g.provs x := by
  obtain ⟨provs', sup', hs'⟩ := plan_supplierMap hp'
  obtain ⟨provs, sup, hs⟩ := plan_supplierMap hp
  obtain ⟨x', a1, a2, a3, a4⟩ := returned_value hp' hs'
  obtain ⟨x, b1, b2, b3, b4⟩ := returned_value hp hs
  refine ⟨x', x, a1, a4, a2, b1, b4, b2, ?_⟩
  rw [(plan_value hp' hs').1, (plan_value hp hs).1]
  exact perm_value hperm hs' hs a3 b3

/-- type-key form of `Needs`: the supplier of `t` requires `t'` -/
def TNeeds (provs : List PSpec) (sup : SupMap) (t t' : Nat) : Prop :=
  ∃ q, (∃ gi, sup.lookup t = some (q, gi)) ∧ t' ∈ (provs.getD q default).requires

/-- the acyclicity condition of `C09_accept_iff`, in terms of type keys -/
theorem acyclic_iff_tacyclic {provs : List PSpec} {sup : SupMap} {ret rp ri : Nat}
    (hret : sup.lookup ret = some (rp, ri)) :
    (∀ q, Reach (Needs provs sup) rp q → ¬ Relation.TransGen (Needs provs sup) q q) ↔
      ∀ t, Reach (TNeeds provs sup) ret t → ¬ Relation.TransGen (TNeeds provs sup) t t :=
  acyclic_comp_iff (Q := fun q t => t ∈ (provs.getD q default).requires)
    (S := fun t q => ∃ gi, sup.lookup t = some (q, gi)) ⟨ri, hret⟩
    fun q ⟨gi, h⟩ => by rw [hret] at h; cases h; rfl

theorem TNeeds.of_sameSup {provs' provs : List PSpec} {sup' sup : SupMap}
    (hsame : ∀ t, SameSup provs' sup' provs sup t) {t t' : Nat} (h : TNeeds provs' sup' t t') :
    TNeeds provs sup t t' := by
  obtain ⟨q', ⟨gi, hl'⟩, hreq⟩ := h
  obtain ⟨q, hl, hqq⟩ := (hsame t).some hl'
  exact ⟨q, ⟨gi, hl⟩, hqq ▸ hreq⟩

theorem perm_accept_of_ok {provs0' provs0 provs' provs : List PSpec} {sup' sup : SupMap} (ret : Nat)
    (hperm : provs0'.Perm provs0)
    (hs' : supplierMap provs0' = .ok (provs', sup')) (hs : supplierMap provs0 = .ok (provs, sup)) :
    (∃ p', plan provs0' ret = .ok p') ↔ (∃ p, plan provs0 ret = .ok p) := by
  have hsame := perm_suppliers hperm hs' hs
  rcases hsame ret with ⟨h1, h2⟩ | ⟨rp', rp, ri, h1, h2, _⟩
  · exact iff_of_false (plan_err_of_unsupplied hs' h1) (plan_err_of_unsupplied hs h2)
  · -- the relation between type keys is the same in both orders
    have hT : TNeeds provs' sup' = TNeeds provs sup :=
      funext fun _ => funext fun _ => propext ⟨.of_sameSup hsame, .of_sameSup fun t => (hsame t).symm⟩
    rw [accepted_iff_acyclic hs' h1, accepted_iff_acyclic hs h2, acyclic_iff_tacyclic h1, acyclic_iff_tacyclic h2, hT]

theorem perm_accept' {provs0' provs0 : List PSpec} (ret : Nat) (hperm : provs0'.Perm provs0) :
    (∃ p', plan provs0' ret = .ok p') ↔ (∃ p, plan provs0 ret = .ok p) := by
  have key : ∀ {ps ps' : List PSpec}, ps'.Perm ps → (∃ p, plan ps ret = .ok p) → ∃ p', plan ps' ret = .ok p' := by
    rintro ps ps' hpm ⟨p, hp⟩
    obtain ⟨provs, sup, hs⟩ := plan_supplierMap hp
    obtain ⟨⟨provs', sup'⟩, hs'⟩ := (perm_supplierMap_isOk hpm).mpr ⟨_, hs⟩
    exact (perm_accept_of_ok ret hpm hs' hs).mpr ⟨p, hp⟩
  exact ⟨key hperm.symm, key hperm⟩

/-- `perm_accept'` for declarations with distinct labels (the hypothesis is not used) -/
theorem perm_accept {provs0' provs0 : List PSpec} (ret : Nat) (hperm : provs0'.Perm provs0)
    (hnd : (provs0.map (·.decl)).Nodup) :
    (∃ p', plan provs0' ret = .ok p') ↔ (∃ p, plan provs0 ret = .ok p) :=
  perm_accept' ret hperm

namespace PermExamples
open RefuseExamples (isOk errOf)

/-! ### a three-provider declaration (type keys and labels are `Nat`s; no struct expansion) and a rotation of it -/

/-- makes 1 from 2 and 3 -/
def p0 : PSpec := { provides := [[1]], requires := [2, 3], decl := 10 }
/-- makes 2 (bound to interface 7) from 3 -/
def p1 : PSpec := { provides := [[2, 7]], requires := [3], decl := 11 }
/-- returns two values, 4 and 3, from the unsupplied 9 -/
def p2 : PSpec := { provides := [[4], [3]], requires := [9], decl := 12 }

def declA : List PSpec := [p0, p1, p2]
def declB : List PSpec := [p2, p0, p1]

theorem declB_perm : declB.Perm declA :=
  (List.Perm.swap p0 p2 [p1]).trans (List.Perm.cons p0 (List.Perm.swap p1 p2 []))

theorem declA_distinct : (declA.map (·.decl)).Nodup := by decide

def supA : SupMap := [(1, (0, 0)), (2, (1, 0)), (7, (1, 0)), (4, (2, 0)), (3, (2, 1))]
def supB : SupMap := [(4, (0, 0)), (3, (0, 1)), (1, (1, 0)), (2, (2, 0)), (7, (2, 0))]

theorem declA_sup : supplierMap declA = .ok (declA, supA) := by rfl
theorem declB_sup : supplierMap declB = .ok (declB, supB) := by rfl

/-- the reference value of type 1 in the first order: positions 0, 1, 2 -/
def valA : Val := .app 0 0 [.app 1 0 [.app 2 1 [.arg 9]], .app 2 1 [.arg 9]]
/-- … and in the rotated order: positions 1, 2, 0 -/
def valB : Val := .app 1 0 [.app 2 0 [.app 0 1 [.arg 9]], .app 0 1 [.arg 9]]

theorem valA_eval : Eval declA supA 1 valA :=
  Eval.app (p := 0) (gi := 0) rfl (EvalL.cons
    (Eval.app (p := 1) (gi := 0) rfl (EvalL.cons (Eval.app (p := 2) (gi := 1) rfl (EvalL.cons (Eval.arg rfl) EvalL.nil)) EvalL.nil))
    (EvalL.cons (Eval.app (p := 2) (gi := 1) rfl (EvalL.cons (Eval.arg rfl) EvalL.nil)) EvalL.nil))

theorem valB_eval : Eval declB supB 1 valB :=
  Eval.app (p := 1) (gi := 0) rfl (EvalL.cons
    (Eval.app (p := 2) (gi := 0) rfl (EvalL.cons (Eval.app (p := 0) (gi := 1) rfl (EvalL.cons (Eval.arg rfl) EvalL.nil)) EvalL.nil))
    (EvalL.cons (Eval.app (p := 0) (gi := 1) rfl (EvalL.cons (Eval.arg rfl) EvalL.nil)) EvalL.nil))

theorem declAB_accepted : isOk (plan declB 1) = true ∧ isOk (plan declA 1) = true := by decide +kernel

example : valB ≠ valA := by intro h; cases h
example : label declB valB = .app 10 "" 0 [.app 11 "" 0 [.app 12 "" 1 [.arg 9]], .app 12 "" 1 [.arg 9]] := by rfl
example : label declA valA = .app 10 "" 0 [.app 11 "" 0 [.app 12 "" 1 [.arg 9]], .app 12 "" 1 [.arg 9]] := by rfl
example : label declB valB = label declA valA := by rfl
example : label declB valB = label declA valA := perm_value declB_perm declB_sup declA_sup valB_eval valA_eval
example : isOk (plan declB 1) = true ∧ isOk (plan declA 1) = true := declAB_accepted
example : (∃ p', plan declB 1 = .ok p') ↔ (∃ p, plan declA 1 = .ok p) :=
  perm_accept 1 declB_perm declA_distinct
/-- suppliers: type 3 is result group 1 of the provider labelled 12, at position 2 resp. 0 -/
example : SameSup declB supB declA supA 3 := perm_suppliers declB_perm declB_sup declA_sup 3
example : supB.lookup 3 = some (0, 1) ∧ supA.lookup 3 = some (2, 1) ∧ declB.getD 0 default = declA.getD 2 default :=
  ⟨rfl, rfl, rfl⟩

/-! ### nested struct expansion: a struct whose value is a field of another expanded struct -/

/-- returns struct 8 -/
def fnS : PSpec := { provides := [[8]], decl := 0 }
/-- `Struct[8]`, with field `x` of struct type 5 -/
def stB : PSpec := { kind := 1, structTy := 8, fields := [("x", 5)], decl := 1 }
/-- `Struct[5]`, with field `y` of type 6 -/
def stA : PSpec := { kind := 1, structTy := 5, fields := [("y", 6)], decl := 2 }

/-- the outer struct expansion is declared first -/
def nestedOuterFirst : List PSpec := [fnS, stB, stA]
/-- the inner struct expansion is declared first: `Struct[5]` has to wait a round for its source, the field `x` -/
def nestedInnerFirst : List PSpec := [fnS, stA, stB]

theorem nested_perm : nestedInnerFirst.Perm nestedOuterFirst := List.Perm.cons fnS (List.Perm.swap stB stA [])
theorem nested_distinct : (nestedOuterFirst.map (·.decl)).Nodup := by decide

/-- the synthetic field providers are appended in expansion order — `x` (of `Struct[8]`) before `y` (of `Struct[5]`)
    in both orders, since `Struct[5]` has to wait for `x` — and the supplier maps coincide -/
theorem nested_supplierMaps :
    supplierMap nestedOuterFirst =
      .ok (nestedOuterFirst ++ [mkFieldProv 8 1 "x" 5, mkFieldProv 5 2 "y" 6], [(8, (0, 0)), (5, (3, 0)), (6, (4, 0))]) ∧
    supplierMap nestedInnerFirst =
      .ok (nestedInnerFirst ++ [mkFieldProv 8 1 "x" 5, mkFieldProv 5 2 "y" 6], [(8, (0, 0)), (5, (3, 0)), (6, (4, 0))]) :=
  ⟨rfl, rfl⟩

theorem nestedOuterFirst_sup : isOk (supplierMap nestedOuterFirst) = true := by rw [nested_supplierMaps.1]; rfl
theorem nestedInnerFirst_sup : isOk (supplierMap nestedInnerFirst) = true := by rw [nested_supplierMaps.2]; rfl

theorem nestedOuterFirst_accepted : isOk (plan nestedOuterFirst 6) = true := by decide +kernel
theorem nestedInnerFirst_accepted : isOk (plan nestedInnerFirst 6) = true := by decide +kernel

theorem nested_both_accepted :
    isOk (plan nestedOuterFirst 6) = true ∧ isOk (plan nestedInnerFirst 6) = true :=
  ⟨nestedOuterFirst_accepted, nestedInnerFirst_accepted⟩

example : (∃ p', plan nestedInnerFirst 6 = .ok p') ↔ (∃ p, plan nestedOuterFirst 6 = .ok p) :=
  perm_accept 6 nested_perm nested_distinct

/-- a struct expansion that is a field only of itself / of a struct that is never expanded stays an orphan, in every
    order -/
example : errOf (plan [fnS, stA] 6) = some (.orphan 5) ∧
    errOf (plan [{ kind := 1, structTy := 5, fields := [("y", 6)], decl := 2 },
                 { kind := 1, structTy := 6, fields := [("x", 5)], decl := 1 }] 6) = some (.orphan 5) := by decide

end PermExamples

/-- the unrestricted statements (only distinct labels assumed) -/
def perm_accept_unrestricted_statement : Prop :=
  ∀ (provs0' provs0 : List PSpec) (ret : Nat), provs0'.Perm provs0 → (provs0.map (·.decl)).Nodup →
    ((∃ p', plan provs0' ret = .ok p') ↔ (∃ p, plan provs0 ret = .ok p))

def perm_supplierMap_ok_unrestricted_statement : Prop :=
  ∀ (provs0' provs0 : List PSpec), provs0'.Perm provs0 → (provs0.map (·.decl)).Nodup →
    ((∃ r', supplierMap provs0' = .ok r') ↔ (∃ r, supplierMap provs0 = .ok r))

/-- … **hold**: struct expansions are not processed strictly in declaration order, a pending one is retried -/
theorem perm_accept_unrestricted : perm_accept_unrestricted_statement :=
  fun _ _ ret hperm hnd => perm_accept ret hperm hnd

theorem perm_supplierMap_ok_unrestricted : perm_supplierMap_ok_unrestricted_statement :=
  fun _ _ hperm hnd => perm_supplierMap_ok hperm hnd

end KV

#print axioms KV.supplierMap_spec
#print axioms KV.perm_suppliers
#print axioms KV.perm_value
#print axioms KV.perm_returned_value
#print axioms KV.supplierMap_ok_iff
#print axioms KV.perm_supplierMap_ok
#print axioms KV.perm_supplierMap_ok_or_orphan
#print axioms KV.perm_accept_of_ok
#print axioms KV.perm_accept
#print axioms KV.pass2_ok_iff
#print axioms KV.PermExamples.nested_both_accepted
#print axioms KV.perm_accept_unrestricted
#print axioms KV.perm_supplierMap_ok_unrestricted
