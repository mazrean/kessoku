import KV.Reserved
import KV.TypeConvProofs
/-! # Reserved names: proofs (`KV/Reserved.lean`)

The converter starts from a table whose `used` side already holds the reserved names.  `InvR` (the relaxed `Inv`) is
kept by `addImport` and by the `TypeToExpr` model, a new import never takes a name that was in `used` before, and the
round trip of `KV/TypeConvProofs.lean` still holds. -/
namespace Imp

theorem lookup_map_mem (names : List String) (r : String) (h : r ∈ names) :
    (names.map (fun n => (n, reservedPath))).lookup r = some reservedPath := by
  rw [List.lookup_map_const, if_pos h]

theorem invR_withReserved (names : List String) : InvR (TC.withReserved names) := by
  refine ⟨fun _ _ h => (nomatch h), fun n p h hp => ?_, rfl⟩
  simp only [TC.withReserved, List.lookup_map_const] at h
  split at h
  · exact absurd (Option.some.inj h).symm hp
  · cases h

/-- `Inv` is the special case without reserved names -/
theorem invR_of_inv {tc : TC} (h : Inv tc) (hr : tc.imports.lookup reservedPath = none) : InvR tc :=
  ⟨h.1, fun n p hl _ => h.2 n p hl, hr⟩

theorem addImport_invR {tc tc' : TC} {p : Nat} {d n : String} (h : InvR tc) (hp : p ≠ reservedPath)
    (ha : addImport tc p d = some (tc', n)) : InvR tc' := by
  refine ⟨addImport_inv1 h.1 ha, ?_⟩
  rcases addImport_cases ha with ⟨rfl, _⟩ | ⟨hnone, _, hi, hu⟩
  · exact h.2
  · rw [hi, hu]
    exact ⟨fun a b hl hs => mirror_cons hnone n hl fun hl' => h.2.1 a b hl' hs,
      by rw [List.lookup_cons_ne (Ne.symm hp)]; exact h.2.2⟩

end Imp

namespace TConv
open Imp

/-- the per-node part of `noRes` -/
def tagNoRes : Tag → Bool
  | .named p _ => decide (p ≠ reservedPath)
  | _ => true

mutual
/-- no named node of the type has package `reservedPath` (which is no import path) -/
def noRes : Ty → Bool
  | .node tag kids => tagNoRes tag && noResList kids
def noResList : List Ty → Bool
  | [] => true
  | t :: ts => noRes t && noResList ts
end

theorem render_invR_both {cur : Option Nat} {pname : Nat → String} :
    (∀ t tc tc' e, render cur pname tc t = some (tc', e) → InvR tc → noRes t = true → InvR tc') ∧
    (∀ ts tc tc' es, renderList cur pname tc ts = some (tc', es) → InvR tc → noResList ts = true → InvR tc') := by
  refine render_induct ?_ ?_ ?_
  · intro tag kids tc tc1 tc' etag es h1 _ ih hi hnr
    simp only [noRes, Bool.and_eq_true] at hnr
    refine ih ?_ hnr.2
    rcases renderTag_cases h1 with ⟨rfl, _⟩ | ⟨p, name, c, q, rfl, _, _, ha, _⟩
    · exact hi
    · exact addImport_invR hi (of_decide_eq_true hnr.1) ha
  · exact fun _ hi _ => hi
  · intro t ts tc tc1 tc' e es _ _ ih1 ih2 hi hnr
    simp only [noResList, Bool.and_eq_true] at hnr
    exact ih2 (ih1 hi hnr.1) hnr.2

theorem render_invR {cur : Option Nat} {pname : Nat → String} :
    ∀ (t : Ty) (tc tc' : TC) (e : Ex), InvR tc → noRes t = true → render cur pname tc t = some (tc', e) → InvR tc' :=
  fun t tc tc' e hi hnr h => render_invR_both.1 t tc tc' e h hi hnr

theorem renderList_invR {cur : Option Nat} {pname : Nat → String} :
    ∀ (ts : List Ty) (tc tc' : TC) (es : List Ex), InvR tc → noResList ts = true →
      renderList cur pname tc ts = some (tc', es) → InvR tc' :=
  fun ts tc tc' es hi hnr h => render_invR_both.2 ts tc tc' es h hi hnr

/-! ### round trip: the first clause of `InvR` is `Inv1` -/

theorem render_roundtrip_R {c : Nat} {pname : Nat → String} :
    ∀ (t : Ty) (tc tc' : TC) (e : Ex), InvR tc → WF t = true → noRes t = true →
      render (some c) pname tc t = some (tc', e) → resolve (some c) tc' e = some t :=
  fun t tc tc' e hi hwf _ => render_roundtrip1 t tc tc' e hi.1 hwf

theorem renderList_roundtrip_R {c : Nat} {pname : Nat → String} :
    ∀ (ts : List Ty) (tc tc' : TC) (es : List Ex), InvR tc → WFList ts = true → noResList ts = true →
      renderList (some c) pname tc ts = some (tc', es) → resolveList (some c) tc' es = some ts :=
  fun ts tc tc' es hi hwf _ => renderList_roundtrip1 ts tc tc' es hi.1 hwf

theorem render_fresh_R {cur : Option Nat} {pname : Nat → String} :
    ∀ (t : Ty) (tc tc' : TC) (e : Ex), render cur pname tc t = some (tc', e) →
      ∀ p n, tc'.imports.lookup p = some n → tc.imports.lookup p = some n ∨ tc.used.lookup n = none :=
  fun t tc tc' e h => (render_ext_both.1 t tc tc' e h).fresh

theorem renderList_fresh_R {cur : Option Nat} {pname : Nat → String} :
    ∀ (ts : List Ty) (tc tc' : TC) (es : List Ex), renderList cur pname tc ts = some (tc', es) →
      ∀ p n, tc'.imports.lookup p = some n → tc.imports.lookup p = some n ∨ tc.used.lookup n = none :=
  fun ts tc tc' es h => (render_ext_both.2 ts tc tc' es h).fresh

end TConv

#print axioms Imp.lookup_map_mem
#print axioms Imp.invR_withReserved
#print axioms Imp.addImport_invR
#print axioms TConv.render_invR
#print axioms TConv.renderList_invR
#print axioms TConv.render_roundtrip_R
#print axioms TConv.renderList_roundtrip_R
#print axioms TConv.render_fresh_R
#print axioms TConv.renderList_fresh_R
