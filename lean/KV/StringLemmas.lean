import Std.Data.String.ToNat
/-! Names with a numeric suffix: the suffix determines the number (used by both name allocators). -/

theorem String.append_toString_inj (base : String) {a b : Nat} (h : base ++ toString a = base ++ toString b) : a = b :=
  Nat.repr_inj.mp ((String.append_right_inj base).mp h)
