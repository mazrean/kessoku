import KV.T1F
import KV.Emit
/-! Emission of the micro-op program with failure / cancellation flags (`T1F.Prog`).  `emitF` is built like `T1.emit`
from the same node blocks: every wait of the main thread carries `fl.ctxMain`, every wait of a goroutine `fl.ctxGo`,
the exit of node `n` carries `fl.fallible n`.  Everything about it is read off `thread_emitF` (thread `t` is that of
`T1.emit` with the flags attached op by op); `eraseFlags_emitF`: the two emissions cannot drift apart.
`wf_of_erase`, `wfdata_of_erase`: `T1.WF`/`T1.WFData` of the erased program give `T1F.WF`/`T1F.WFData`; what is new
is `mainOnly` for spawn/ret, the spawns ranked below `eg.Wait`, and `waitsCtx` (`emitF_waitsCtx_iff`, thread by thread). -/
namespace T1F

/-! ### forgetting the flags, and attaching them -/

def eraseOp : Op → T1.Op
  | .wait o c _ => .wait o c
  | .enter o a => .enter o a
  | .exit o r _ => .exit o r
  | .close o c => .close o c
  | .spawn g => .spawn g
  | .egwait => .egwait
  | .ret v => .ret v

def eraseFlags (P : Prog) : T1.Prog := ⟨P.threads.map (·.map eraseOp)⟩

def flagOp (fal : Nat → Bool) (k : Bool) : T1.Op → Op
  | .wait o c => .wait o c k
  | .enter o a => .enter o a
  | .exit o r => .exit o r (fal o)
  | .close o c => .close o c
  | .spawn g => .spawn g
  | .egwait => .egwait
  | .ret v => .ret v

theorem eraseOp_flagOp (fal : Nat → Bool) (k : Bool) (op : T1.Op) : eraseOp (flagOp fal k op) = op := by
  cases op <;> rfl

theorem eraseFlags_length (P : Prog) : (eraseFlags P).threads.length = P.threads.length := by
  simp [eraseFlags]

theorem thread_erase (P : Prog) (t : Nat) : T1.thread (eraseFlags P) t = (thread P t).map eraseOp :=
  List.getD_map (d := []) (List.map eraseOp)

theorem mem_erase_of_mem {P : Prog} {t : Nat} {op : Op} (h : op ∈ thread P t) :
    eraseOp op ∈ T1.thread (eraseFlags P) t := by
  rw [thread_erase]; exact List.mem_map_of_mem h

/-- An op of the erased program comes from the same op with some flags.  For a given constructor `flagOp` reduces: the
    statement reads `.close o c ∈ thread P t`, `.exit o r f ∈ thread P t`, `.wait o c k ∈ thread P t`, ... -/
theorem mem_of_mem_erase {P : Prog} {t : Nat} {op' : T1.Op} (h : op' ∈ T1.thread (eraseFlags P) t) :
    ∃ f k : Bool, flagOp (fun _ => f) k op' ∈ thread P t := by
  rw [thread_erase, List.mem_map] at h
  obtain ⟨op, hop, rfl⟩ := h
  cases op with
  | wait o c k => exact ⟨false, k, hop⟩
  | exit o r f => exact ⟨f, false, hop⟩
  | _ => exact ⟨false, false, hop⟩

theorem sorted_of_erase {P : Prog} {rank : T1.Op → Nat}
    (hs : ∀ t, (T1.thread (eraseFlags P) t).Pairwise (fun a b => rank a ≤ rank b)) (t : Nat) :
    (thread P t).Pairwise (fun a b => rank (eraseOp a) ≤ rank (eraseOp b)) := by
  have := hs t
  rw [thread_erase, List.pairwise_map] at this
  exact this

theorem wf_of_erase {P : Prog} {rank : T1.Op → Nat} (hw : T1.WF (eraseFlags P) rank)
    (hse : ∀ g, rank (.spawn g) < rank .egwait)
    (hmain : MainOnly P)
    (hctx : ∀ t o c k, Op.wait o c k ∈ thread P t → k = true) :
    WF P (fun op => rank (eraseOp op)) where
  sorted := sorted_of_erase hw.sorted
  waitClose := by
    intro t o c k h
    obtain ⟨t', o', hc, hr⟩ := hw.waitClose t o c (mem_erase_of_mem h)
    obtain ⟨_, _, hop⟩ := mem_of_mem_erase hc
    exact ⟨t', o', hop, hr⟩
  spawnBefore := by
    intro g hg0 hgl
    obtain ⟨hs, hr⟩ := hw.spawnBefore g hg0 (by rw [eraseFlags_length]; exact hgl)
    obtain ⟨_, _, hop⟩ := mem_of_mem_erase hs
    exact ⟨hop, fun op' hop' => hr _ (mem_erase_of_mem hop'), hse g⟩
  egwaitAfter := fun g hg0 op hop => hw.egwaitAfter g hg0 _ (mem_erase_of_mem hop)
  mainOnly := hmain
  waitsCtx := hctx

theorem wfdata_of_erase {P : Prog} {rank : T1.Op → Nat} {isParam : Nat → Prop}
    (hd : T1.WFData (eraseFlags P) rank isParam) : WFData P (fun op => rank (eraseOp op)) isParam where
  reads := by
    intro t o args v hen hv hnp
    obtain ⟨t', o', rets, hex, hvr, hcase⟩ := hd.reads t o args v (mem_erase_of_mem hen) hv hnp
    obtain ⟨f, _, hope⟩ := mem_of_mem_erase hex
    refine ⟨t', o', rets, f, hope, hvr, hcase.imp id fun ⟨⟨ow, hwt, hrw⟩, ⟨oc, hcl, hrc⟩⟩ => ?_⟩
    obtain ⟨_, k, hopw⟩ := mem_of_mem_erase hwt
    obtain ⟨_, _, hopc⟩ := mem_of_mem_erase hcl
    exact ⟨⟨ow, k, hopw, hrw⟩, ⟨oc, hopc, hrc⟩⟩
  closeUnique := fun c t o t' o' h1 h2 => hd.closeUnique c t o t' o' (mem_erase_of_mem h1) (mem_erase_of_mem h2)

theorem singleWriter_of_erase {P : Prog} {rank : T1.Op → Nat} {isParam : Nat → Prop}
    (hd : T1.WFData (eraseFlags P) rank isParam) {v t o t' o' : Nat} {rets rets' : List Nat} {f f' : Bool}
    (h1 : Op.exit o rets f ∈ thread P t) (hv : v ∈ rets) (h2 : Op.exit o' rets' f' ∈ thread P t') (hv' : v ∈ rets') :
    t = t' ∧ o = o' ∧ rets = rets' :=
  hd.singleWriter v t o rets t' o' rets' (mem_erase_of_mem h1) hv (mem_erase_of_mem h2) hv'

/-! ### emission with flags -/

/-- the flags the generator decides per injector -/
structure Flags where
  /-- node id ↦ its provider returns `error` -/
  fallible : Nat → Bool
  /-- waits of the main thread are `select { <-ch ; <-ctx.Done() }` -/
  ctxMain : Bool
  /-- waits of goroutines are `select { <-ch ; <-ctx.Done() }` -/
  ctxGo : Bool
  /-- the injector returns `error` -/
  retErr : Bool

def waitsOfF (k : Bool) (nd : T1.NodeInfo) : List Op := (nd.args.filter (·.2)).map (fun a => Op.wait nd.id a.1 k)
def closesOfF (nd : T1.NodeInfo) : List Op := (nd.rets.filter (·.2)).map (fun r => Op.close nd.id r.1)
def enterOfF (nd : T1.NodeInfo) : Op := .enter nd.id (nd.args.map (·.1))
def exitOfF (fal : Nat → Bool) (nd : T1.NodeInfo) : Op := .exit nd.id (nd.rets.map (·.1)) (fal nd.id)
/-- `[waits] ; enter ; exit ; [closes]`, as `T1.block` -/
def blockF (fal : Nat → Bool) (k : Bool) (nd : T1.NodeInfo) : List Op :=
  waitsOfF k nd ++ ([enterOfF nd, exitOfF fal nd] ++ closesOfF nd)

def spawnsF (ngo : Nat) : List Op := (List.range ngo).map (fun g => Op.spawn (g + 1))
def tailOpsF (ngo : Nat) (retVar : Nat) : List Op := (if ngo = 0 then [] else [Op.egwait]) ++ [Op.ret retVar]
def mainThreadF (fl : Flags) (main : List T1.NodeInfo) (ngo : Nat) (retVar : Nat) : List Op :=
  spawnsF ngo ++ (main.flatMap (blockF fl.fallible fl.ctxMain) ++ tailOpsF ngo retVar)

def emitF (fl : Flags) (main : List T1.NodeInfo) (gos : List (List T1.NodeInfo)) (retVar : Nat) : Prog :=
  ⟨mainThreadF fl main gos.length retVar :: gos.map (·.flatMap (blockF fl.fallible fl.ctxGo)), fl.retErr⟩

def Flags.ctxOf (fl : Flags) (t : Nat) : Bool := match t with | 0 => fl.ctxMain | _ + 1 => fl.ctxGo

theorem blockF_eq (fal : Nat → Bool) (k : Bool) (nd : T1.NodeInfo) :
    blockF fal k nd = (T1.block nd).map (flagOp fal k) := by
  simp only [blockF, waitsOfF, closesOfF, enterOfF, exitOfF, T1.block, T1.waitsOf, T1.closesOf, T1.enterOf,
    T1.exitOf, List.map_append, List.map_map, List.map_cons, List.map_nil, flagOp]
  rfl

theorem blocksF_eq (fal : Nat → Bool) (k : Bool) (l : List T1.NodeInfo) :
    l.flatMap (blockF fal k) = (l.flatMap T1.block).map (flagOp fal k) := by
  rw [List.map_flatMap, ← funext (blockF_eq fal k)]

theorem mainThreadF_eq (fl : Flags) (main : List T1.NodeInfo) (ngo rv : Nat) :
    mainThreadF fl main ngo rv = (T1.mainThread main ngo rv).map (flagOp fl.fallible fl.ctxMain) := by
  simp only [mainThreadF, T1.mainThread, blocksF_eq, spawnsF, T1.spawns, tailOpsF, T1.tailOps, List.map_append,
    List.map_map]
  congr 2
  split <;> rfl

theorem emitF_retErr (fl : Flags) (main : List T1.NodeInfo) (gos : List (List T1.NodeInfo)) (rv : Nat) :
    (emitF fl main gos rv).retErr = fl.retErr := rfl

theorem emitF_length (fl : Flags) (main : List T1.NodeInfo) (gos : List (List T1.NodeInfo)) (rv : Nat) :
    (emitF fl main gos rv).threads.length = gos.length + 1 := by
  simp [emitF]

theorem thread_emitF (fl : Flags) (main : List T1.NodeInfo) (gos : List (List T1.NodeInfo)) (rv t : Nat) :
    thread (emitF fl main gos rv) t =
      (T1.thread (T1.emit main gos rv) t).map (flagOp fl.fallible (fl.ctxOf t)) := by
  cases t with
  | zero => rw [T1.thread_emit_zero]; exact mainThreadF_eq fl main gos.length rv
  | succ g =>
    rw [T1.thread_emit_succ, ← blocksF_eq]
    exact List.getD_map (d := []) (fun l : List T1.NodeInfo => l.flatMap (blockF fl.fallible fl.ctxGo))

theorem mem_thread_emitF {fl : Flags} {main : List T1.NodeInfo} {gos : List (List T1.NodeInfo)} {rv t : Nat} {op : Op} :
    op ∈ thread (emitF fl main gos rv) t ↔
      ∃ op' ∈ T1.thread (T1.emit main gos rv) t, flagOp fl.fallible (fl.ctxOf t) op' = op := by
  rw [thread_emitF, List.mem_map]

theorem eraseFlags_emitF (fl : Flags) (main : List T1.NodeInfo) (gos : List (List T1.NodeInfo)) (rv : Nat) :
    eraseFlags (emitF fl main gos rv) = T1.emit main gos rv := by
  have herase : ∀ fal k (l : List T1.Op), (l.map (flagOp fal k)).map eraseOp = l := fun fal k l => by
    rw [List.map_map]; exact List.map_id'' (eraseOp_flagOp fal k) l
  simp only [eraseFlags, emitF, T1.emit, List.map_cons, List.map_map, mainThreadF_eq, herase]
  congr 2
  exact List.map_congr_left fun l _ => by simp only [Function.comp, blocksF_eq, herase]

theorem emitF_mainOnly (fl : Flags) (main : List T1.NodeInfo) (gos : List (List T1.NodeInfo)) (rv : Nat) :
    MainOnly (emitF fl main gos rv) := by
  intro t op h hk
  obtain ⟨op', hop', rfl⟩ := mem_thread_emitF.mp h
  rcases T1.mem_thread_emit_iff.mp hop' with ⟨nd, _, hb⟩ | ⟨h0, _⟩
  · exfalso
    rcases T1.mem_block.mp hb with ⟨v, _, rfl⟩ | rfl | rfl | ⟨v, _, rfl⟩ <;>
      rcases hk with h | ⟨_, h⟩ | ⟨_, h⟩ <;> cases h
  · exact h0

theorem wait_mem_emitF {fl : Flags} {main : List T1.NodeInfo} {gos : List (List T1.NodeInfo)} {rv t o c : Nat}
    {k : Bool} : Op.wait o c k ∈ thread (emitF fl main gos rv) t ↔
      k = fl.ctxOf t ∧ T1.Op.wait o c ∈ T1.thread (T1.emit main gos rv) t := by
  rw [mem_thread_emitF]
  constructor
  · rintro ⟨op', hop', he⟩
    cases op' <;> cases he
    exact ⟨rfl, hop'⟩
  · rintro ⟨rfl, h⟩; exact ⟨_, h, rfl⟩

theorem emitF_wait_flag {fl : Flags} {main : List T1.NodeInfo} {gos : List (List T1.NodeInfo)} {rv t o c : Nat}
    {k : Bool} (h : Op.wait o c k ∈ thread (emitF fl main gos rv) t) : k = fl.ctxOf t :=
  (wait_mem_emitF.mp h).1

theorem emitF_exit_flag {fl : Flags} {main : List T1.NodeInfo} {gos : List (List T1.NodeInfo)} {rv t o : Nat}
    {rets : List Nat} {f : Bool} (h : Op.exit o rets f ∈ thread (emitF fl main gos rv) t) : f = fl.fallible o := by
  obtain ⟨op', _, he⟩ := mem_thread_emitF.mp h
  cases op' <;> cases he
  rfl

def hasWait (main : List T1.NodeInfo) (gos : List (List T1.NodeInfo)) (t : Nat) : Bool :=
  (T1.threadNodes main gos t).any (fun nd => nd.args.any (·.2))

theorem hasWait_iff {fl : Flags} {main : List T1.NodeInfo} {gos : List (List T1.NodeInfo)} {rv t : Nat} :
    hasWait main gos t = true ↔ ∃ o c k, Op.wait o c k ∈ thread (emitF fl main gos rv) t := by
  rw [hasWait, List.any_eq_true]
  constructor
  · rintro ⟨nd, hnd, h⟩
    obtain ⟨⟨v, w⟩, ha, rfl⟩ := List.any_eq_true.mp h
    exact ⟨nd.id, v, _, wait_mem_emitF.mpr ⟨rfl, T1.wait_mem_emit.mpr ⟨nd, hnd, rfl, ha⟩⟩⟩
  · rintro ⟨o, c, k, h⟩
    obtain ⟨nd, hnd, _, hv⟩ := T1.wait_mem_emit.mp (wait_mem_emitF.mp h).2
    exact ⟨nd, hnd, List.any_eq_true.mpr ⟨(c, true), hv, rfl⟩⟩

theorem emitF_waitsCtx_iff {fl : Flags} {main : List T1.NodeInfo} {gos : List (List T1.NodeInfo)} {rv : Nat} (t : Nat) :
    (∀ o c k, Op.wait o c k ∈ thread (emitF fl main gos rv) t → k = true) ↔
    (hasWait main gos t = true → fl.ctxOf t = true) := by
  constructor
  · intro h ht
    obtain ⟨o, c, k, hw⟩ := (hasWait_iff (fl := fl) (rv := rv)).mp ht
    exact (emitF_wait_flag hw).symm.trans (h o c k hw)
  · intro h o c k hw
    rw [emitF_wait_flag hw]
    exact h ((hasWait_iff (fl := fl) (rv := rv)).mpr ⟨o, c, k, hw⟩)

/-! ### shape of the main thread -/

/-- attaching flags loses nothing (`eraseOp_flagOp`) -/
theorem opAt_emitF_zero {fl : Flags} {main : List T1.NodeInfo} {gos : List (List T1.NodeInfo)} {rv j : Nat}
    {op' : T1.Op} : opAt (emitF fl main gos rv) 0 j = some (flagOp fl.fallible fl.ctxMain op') ↔
      (T1.mainThread main gos.length rv)[j]? = some op' := by
  rw [opAt, thread_emitF, T1.thread_emit_zero, List.getElem?_map, Option.map_eq_some_iff]
  constructor
  · rintro ⟨a, ha, he⟩
    rw [ha, ← eraseOp_flagOp fl.fallible (fl.ctxOf 0) a, he, eraseOp_flagOp]
  · exact fun h => ⟨op', h, rfl⟩

theorem emitF_mainShape (fl : Flags) (main : List T1.NodeInfo) (gos : List (List T1.NodeInfo)) (rv : Nat) :
    MainShape (emitF fl main gos rv) where
  nonempty := by rw [emitF_length]; omega
  lastRet := by
    refine ⟨rv, (opAt_emitF_zero (op' := .ret rv)).mpr ?_⟩
    rw [thread_emitF, T1.thread_emit_zero, List.length_map, ← List.getLast?_eq_getElem?]
    exact T1.mainThread_getLast? main gos.length rv

theorem emitF_retShape (fl : Flags) (main : List T1.NodeInfo) (gos : List (List T1.NodeInfo)) (rv : Nat) :
    RetShape (emitF fl main gos rv) := by
  intro hlen j v hop
  rw [emitF_length] at hlen
  obtain ⟨i, hi, hopi⟩ := T1.egwait_before_ret (by omega) ((opAt_emitF_zero (op' := .ret v)).mp hop)
  exact ⟨i, hi, (opAt_emitF_zero (op' := .egwait)).mpr hopi⟩

end T1F
