import KV.Props.C06
/-! # C08 — no goroutine outlives the injector blocked forever

Property statements only (semantics and emission as in `KV/Props/C06.lean`).  Proved: once the derived context
is done — the caller cancelled, a goroutine failed, `eg.Wait` was passed, in particular after every normal
return and after a return through a ctx-aware wait — every running goroutine can step by itself.  **False**
after a main-thread *provider-error* return (known finding K8): nothing cancels the derived context. -/
open KV
namespace C08

/-- **C08 (partial).** Once the derived context is done (caller cancelled, a goroutine failed, or `eg.Wait`
    was passed), a goroutine that is still running and spawned lets the system move.  Needs
    `AllWaitsCtxAware p`.  What is *not* covered is the finding K8 (`KV.Witness.K8`): a failing main-thread
    provider returns without cancelling the derived context. -/
theorem C08_partial {provs : List PSpec} {ret : Nat} {p : PlanOut} (h : plan provs ret = .ok p)
    (hctx : AllWaitsCtxAware p = true) {env : T1F.Env} {s : T1F.St} (hr : T1F.Reach (emittedF p) env s)
    (hcd : T1F.ctxDone s = true) {t : Nat} (ht0 : 0 < t) (htl : t < (emittedF p).threads.length)
    (hrun : T1F.running s t) (hsp : T1F.spawned (emittedF p) s t) : T1F.Progress (emittedF p) env s :=
  T1F.goroutine_moves_when_ctx_done (plan_wfF h hctx) (T1F.shape_reach hr) hcd ht0 htl hrun hsp

/-- **C08 (partial), sharper.** Under the weaker `GoWaitsCtxAware p` (the injector has a context parameter, or
    no goroutine waits), for *every* plan: once the derived context is done, every running spawned goroutine can
    take a step **itself** — it advances or ends; it is never blocked. -/
theorem C08_partial_go {p : PlanOut} (hctx : GoWaitsCtxAware p = true) {env : T1F.Env} {s : T1F.St}
    (hr : T1F.Reach (emittedF p) env s) (hcd : T1F.ctxDone s = true) {t : Nat} (ht0 : 0 < t)
    (htl : t < (emittedF p).threads.length) (hrun : T1F.running s t) (hsp : T1F.spawned (emittedF p) s t) :
    ∃ s', T1F.Step (emittedF p) env s s' ∧ (T1F.pc s' t = T1F.pc s t + 1 ∨ T1F.finOf s' t ≠ none) := by
  refine T1F.goroutine_self_moves (emittedF_mainOnly p) (T1F.shape_reach hr) hcd ht0 htl ?_ hrun hsp
  obtain ⟨g, rfl⟩ : ∃ g, t = g + 1 := ⟨t - 1, by omega⟩
  refine (T1F.emitF_waitsCtx_iff (g + 1)).mpr fun hhw => ?_
  have hgo := (goHasWait_iff p).mpr ⟨g, hhw⟩
  simp only [GoWaitsCtxAware, hgo, Bool.not_true, Bool.or_false] at hctx
  exact hctx


/-- the full statement, in the form "after the injector has returned, a goroutine that is still running is
    never stuck unless the caller acts" -/
def C08_statement : Prop :=
  ∀ (provs : List PSpec) (ret : Nat) (p : PlanOut), plan provs ret = .ok p →
    ∀ (env : T1F.Env) (s : T1F.St), T1F.Reach (emittedF p) env s → s.result ≠ none →
      ∀ t, 0 < t → t < (emittedF p).threads.length → T1F.running s t → T1F.spawned (emittedF p) s t →
        T1F.Progress (emittedF p) env s

/-- **Known finding K8 (negation witness).**  Declaration: S fallible and synchronous, A(S), B(S) Async, C(A, B).
    S fails on the main thread, which returns `zero, err` without cancelling the derived context or waiting; the
    goroutine waiting for S's channel can never move (only the caller's `cancel` step is possible). -/
theorem C08_neg : ¬ C08_statement := by
  intro hst
  obtain ⟨p, hp, hem, _⟩ := KV.Witness.K8_is_emitted
  obtain ⟨hr, hres, _, _, hrun, hsp, _, _, hnp⟩ := KV.Witness.K8_witness
  rw [← hem] at hr hsp hnp
  have hlen : 1 < (emittedF p).threads.length := by rw [hem]; decide
  exact hnp (hst _ _ p hp _ _ hr hres 1 (by omega) hlen hrun hsp)

end C08
