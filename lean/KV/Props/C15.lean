import KV.InstallProofs
import KV.Generated.Install
/-! # C15 — skill installation is atomic per file under crashes and errors

Property statements only.  Every theorem is about `Gen.installSteps` / `Gen.installCleanup`, the step
list and deferred clean-up that `factgen` regenerates from `internal/llmsetup/install.go` on every run;
the general lemmas they instantiate are in `KV/InstallProofs.lean`. -/
namespace C15
open Inst

/-- the regenerated step list contains only calls whose meaning the model fixes, and passes the three
    decidable checks (evaluated by the kernel on the regenerated term) -/
theorem C15_shape :
    hasUnknown Gen.installSteps Gen.installCleanup = false ∧
    crashSafe Gen.installSteps Gen.fileMode = true ∧
    completes Gen.installSteps Gen.installCleanup Gen.fileMode = true ∧
    faultSafe Gen.installSteps Gen.installCleanup = true := by decide +kernel

/-- the installed mode is the documented one -/
theorem C15_mode : Gen.fileMode = 0o644 := rfl

/-- **Crash.** If the installer dies after any number `k` of completed file-system steps of
    `InstallFile`, `j` bytes into a write, the destination file is exactly what it was before (`old`,
    possibly absent) or entirely the new content with its final permissions. -/
theorem C15_crash (old : Option FileV) (content : List Nat) (k j : Nat) :
    (runCrash content Gen.installSteps k j { dest := old, tmp := none }).dest = old ∨
    (runCrash content Gen.installSteps k j { dest := old, tmp := none }).dest = some (content, 0o644) :=
  crash_atomic_of_safe Gen.installSteps 0o644 C15_shape.2.1 old content k j

/-- **A later successful run completes the installation**, whatever state a crash left behind. -/
theorem C15_rerun (old : Option FileV) (content : List Nat) (k j : Nat) :
    runOK content Gen.installSteps Gen.installCleanup
      { dest := (runCrash content Gen.installSteps k j { dest := old, tmp := none }).dest, tmp := none } =
    { st := { dest := some (content, 0o644), tmp := none }, reported := false } :=
  rerun_completes_of Gen.installSteps Gen.installCleanup 0o644 C15_shape.2.2.1 _ content

/-- **Single injected failure.** If step `i` fails without a crash (a failing write may have written
    `j` bytes), the installer reports an error, leaves no temporary file and leaves the previous
    destination intact. -/
theorem C15_fault (old : Option FileV) (content : List Nat) (i j : Nat) (hi : i < Gen.installSteps.length) :
    (runFail content Gen.installSteps Gen.installCleanup i j { dest := old, tmp := none }).reported = true ∧
    (runFail content Gen.installSteps Gen.installCleanup i j { dest := old, tmp := none }).st.dest = old ∧
    (runFail content Gen.installSteps Gen.installCleanup i j { dest := old, tmp := none }).st.tmp = none :=
  fault_clean_of_safe Gen.installSteps Gen.installCleanup C15_shape.2.2.2 old content i j hi

/-- `Install` validates the base path before walking, installs every embedded file through
    `InstallFile(<skill dir>/<dir of rel path>, <base name>, <bytes>)` and touches the file system in
    no other way (regenerated call list). -/
theorem C15_walk :
    Gen.installCalls = ["ResolvePath(customPath,userFlag,agent)", "ValidatePath(basePath)",
      "filepath.Join(basePath,agent.SkillsDirName())", "fs.Stat(skillsFS,srcDir)", "fs.WalkDir(skillsFS,srcDir,?)",
      "filepath.Rel(srcDir,fsPath)", "fs.ReadFile(skillsFS,fsPath)",
      "filepath.Join(skillPath,filepath.Dir(relPath))", "filepath.Dir(relPath)", "filepath.Base(relPath)",
      "InstallFile(targetDir,fileName,content)"] := rfl

/-! Non-vacuity: the hypotheses are met by concrete non-trivial runs, and a mutated order is refuted. -/

example : (runCrash [1, 2, 3] Gen.installSteps 2 1 { dest := some ([9], 0o600), tmp := none }).dest = some ([9], 0o600) := by
  decide
example : (runCrash [1, 2, 3] Gen.installSteps 7 0 { dest := some ([9], 0o600), tmp := none }).dest = some ([1, 2, 3], 0o644) := by
  decide
example : 3 < Gen.installSteps.length := by decide

/-- rename before chmod is *not* crash-safe: the checker rejects it and the witness is the crash point
    right after the rename -/
example : crashSafe [⟨.mkdirAll, true⟩, ⟨.createTemp, true⟩, ⟨.write .tmp, true⟩, ⟨.closeF, true⟩, ⟨.rename, true⟩,
    ⟨.chmod .final 0o644, true⟩] 0o644 = false := by decide

end C15
