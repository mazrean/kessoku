import KV.Dump
/-! # C12 — generated identifiers are always fresh

Property statements only.  `VP.getNameFix` is the model of `VarPool.GetName` (and of `Get` / `GetChannel`,
which derive a base name and call it) that the correspondence check compares with the real allocator on
adversarial request histories; `VP.seedPool` is the pool `NewVarPool` starts from, built from the reserved
word lists regenerated from `const.go`.  Package-level names of the user's package and import names are
pre-registered through the same `GetName` (parser.go), i.e. they are a prefix of the request history. -/
namespace C12
open VP

/-- every Go keyword and predeclared identifier of the language specification -/
def goKeywords : List String :=
  ["break", "default", "func", "interface", "select", "case", "defer", "go", "map", "struct", "chan", "else", "goto",
   "package", "switch", "const", "fallthrough", "if", "range", "type", "continue", "for", "import", "return", "var"]
def goPredeclared : List String :=
  ["any", "bool", "byte", "comparable", "complex64", "complex128", "error", "float32", "float64", "int", "int8", "int16",
   "int32", "int64", "rune", "string", "uint", "uint8", "uint16", "uint32", "uint64", "uintptr", "true", "false", "iota",
   "nil", "append", "cap", "clear", "close", "complex", "copy", "delete", "imag", "len", "make", "max", "min", "new",
   "panic", "print", "println", "real", "recover"]

/-- the regenerated reserved lists cover the language's keywords and predeclared identifiers, and
    `NewVarPool` seeds the pool from both -/
theorem C12_reserved_complete :
    Gen.reservedRecognised = true ∧
    goKeywords.all (fun k => Gen.keywords.contains k) = true ∧
    goPredeclared.all (fun k => Gen.predeclared.contains k) = true ∧
    Gen.poolSeededFrom = ["goPredeclaredIdentifiers", "goReservedKeywords", "generatorLocalIdentifiers"] := by decide +kernel

/-- every reserved word is in use in the initial pool -/
theorem C12_seed_reserved :
    (Gen.predeclared ++ Gen.keywords ++ Gen.generatorLocals).all (fun k => decide (0 < count seedPool k)) = true :=
  List.all_eq_true.mpr fun k hk => decide_eq_true (count_seed_pos _ [] k (.inl hk))

/-- **Freshness over every history.**  Starting from any pool `p` (the seeded pool after any number of
    pre-registrations), for any sequence of requested base names, the names handed out are pairwise distinct,
    none of them was in use before the history (reserved word, predeclared identifier, package-level name,
    earlier generated name), all of them are in use afterwards, and names in use stay in use. -/
theorem C12_fresh (p p' : Pool) (reqs outs : List String) (h : runFix p reqs = some (p', outs)) :
    outs.Nodup ∧ (∀ o ∈ outs, count p o = 0) ∧ (∀ k, 0 < count p k → 0 < count p' k) ∧ (∀ o ∈ outs, 0 < count p' o) :=
  runFix_fresh p p' reqs outs h

/-- **The allocator always answers** (the search for a free suffix terminates within `|pool| + 2` tries). -/
theorem C12_total (p : Pool) (base : String) : getNameFix p base ≠ none := getNameFix_total p base

/-- the request history that broke the previous allocator (`foo0` handed out twice) is handled -/
example : (runFix [] ["foo", "foo", "foo0"]).map (·.2) = some ["foo", "foo0", "foo00"] := by decide

/-- the previous scheme (count suffix without registering the result) is *not* fresh: kept as the regression
    witness of the repaired defect -/
theorem C12_old_scheme_not_fresh : ¬ (runCur [] ["foo", "foo", "foo0"]).2.Nodup := cur_not_fresh

end C12
