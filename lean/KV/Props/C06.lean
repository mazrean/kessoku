import KV.FailWitness
/-! # C06 — a provider failure surfaces as that failure

Property statements only.  `KV.emittedF p` is the program the generator emits for plan `p` in the semantics with
provider failures, errgroup (first error wins and cancels the derived context), `eg.Wait` and caller
cancellation (`KV/T1F.lean`); its flags are the generator's: a wait is ctx-aware iff the injector has a
context parameter and (it sits in a goroutine or the injector returns `error`), an `exit` is fallible iff its
provider returns `error`.  `eraseFlags (emittedF p) = emitted p` ties it to the fault-free program of C01/C03.
Every theorem quantifies over every accepted declaration, every failure set `env`, every cancellation point
(`Step.cancel` is enabled in every state) and every interleaving (`T1F.Reach`).

Side conditions of C06 / C07 / C08.  `AllWaitsCtxAware p` (decidable, on the plan; it is *equivalent* to the
`waitsCtx` field of `T1F.WF (emittedF p)`, see `KV.allWaitsCtxAware_iff`) is needed **only** by `C06_terminates`
(and hence `C07_with_error`, where it follows from `hasAsyncNodes ∧ isErr`) and by `C08_partial`;
`C08_partial_go` needs only the weaker `GoWaitsCtxAware p`.  `C06_nonnil`, `C06_identity_partial`,
`C06_no_dependent*`, `C07_value_complete` need no side condition at all. -/
open KV
namespace C06

/-- **C06, non-nil.** The injector returns `error` (`p.b.isErr`): if any thread — the main thread or a
    goroutine — ended with an error (a provider failed, or it left through a ctx-aware wait), the injector's
    result is not a value.  Holds for every plan; no side condition. -/
theorem C06_nonnil {p : PlanOut} (hre : p.b.isErr = true) {env : T1F.Env} {s : T1F.St}
    (hr : T1F.Reach (emittedF p) env s) {t : Nat} {e : T1F.Err} (ht : t < (emittedF p).threads.length)
    (hf : T1F.finOf s t = some (.err e)) : s.result ≠ some none := fun hres =>
  T1F.value_means_no_error (emittedF_retShape p) hre hr hres t e ht hf

/-- **C06, identity (partial).** An error result is the error of a provider that did fail — unless the caller
    cancelled, or the main thread itself left through a ctx-aware wait (the known finding K6, see
    `KV.Witness.K6`).  Holds for every plan; no side condition. -/
theorem C06_identity_partial {p : PlanOut} {env : T1F.Env} {s : T1F.St}
    (hr : T1F.Reach (emittedF p) env s) {e : T1F.Err} (hres : s.result = some (some e))
    (hq : s.callerCanc = false) (hk6 : T1F.finOf s 0 ≠ some (.err .ctx)) :
    ∃ o, e = .prov o ∧ env.fails o = true :=
  T1F.error_is_provider_error (emittedF_retShape p) hr hres hq hk6

/-- **C06, no dependent runs (1).** Whatever fails and whenever the caller cancels: when a provider is about
    to be entered, every non-parameter input has been written by an `exit` that lies below its thread's counter
    — and a failing `exit` never advances the counter — so the producer **returned successfully**.
    For every accepted declaration; no side condition. -/
theorem C06_no_dependent {provs : List PSpec} {ret : Nat} {p : PlanOut} (h : plan provs ret = .ok p)
    {env : T1F.Env} {s : T1F.St} (hr : T1F.Reach (emittedF p) env s) {t o : Nat} {args : List Nat} {v : Nat}
    (hop : T1F.opAt (emittedF p) t (T1F.pc s t) = some (.enter o args)) (hv : v ∈ args)
    (hnp : ¬ isParamOf p.b v) : T1F.writtenOk (emittedF p) env s v :=
  T1F.writtenOk_of_written hr (T1F.enter_after_writes_sorted (plan_sortedF h) (plan_wfdataF h) hr hop hv hnp)

/-- **C06, no dependent runs (2).** If the provider of node `o'` returns `error` and fails, then in no reachable
    state is any thread about to enter a provider that takes one of `o'`'s results: nothing depending on the
    failed provider is ever invoked.  For every accepted declaration; no side condition. -/
theorem C06_no_dependent_failed {provs : List PSpec} {ret : Nat} {p : PlanOut} (h : plan provs ret = .ok p)
    {env : T1F.Env} {s : T1F.St} (hr : T1F.Reach (emittedF p) env s)
    {t' o' : Nat} {rets : List Nat} {f : Bool} (hex : T1F.Op.exit o' rets f ∈ T1F.thread (emittedF p) t')
    (hfal : fallibleOf p o' = true) (hfails : env.fails o' = true) {v : Nat} (hvr : v ∈ rets)
    (hnp : ¬ isParamOf p.b v) {t o : Nat} {args : List Nat}
    (hop : T1F.opAt (emittedF p) t (T1F.pc s t) = some (.enter o args)) : v ∉ args := by
  intro hv
  obtain ⟨t2, j, o2, rets2, f2, hop2, hv2, _, hok⟩ := C06_no_dependent h hr hop hv hnp
  obtain ⟨_, ho, _⟩ := T1F.singleWriter_of_erase (plan_wf_erase h).2 hex hvr (T1F.opAt_mem hop2) hv2
  subst ho
  have hf2 : f2 = fallibleOf p o' := emittedF_exit_flag (T1F.opAt_mem hop2)
  rw [hf2, hfal, hfails] at hok
  cases hok

/-- **C06, termination.** As long as the injector has not returned, some thread can move — whatever the
    providers do and whenever the caller cancels.  Needs `AllWaitsCtxAware p` (without it the statement is false:
    see `KV.Witness.K7`). -/
theorem C06_terminates {provs : List PSpec} {ret : Nat} {p : PlanOut} (h : plan provs ret = .ok p)
    (hctx : AllWaitsCtxAware p = true) {env : T1F.Env} {s : T1F.St}
    (hr : T1F.Reach (emittedF p) env s) (hmain : T1F.running s 0) : T1F.Progress (emittedF p) env s :=
  T1F.main_never_stuck (plan_wfF h hctx) (emittedF_mainShape p) hr hmain


/-- the full statement of clause 2 ("that error is one returned by an invoked provider unless the caller's own
    context was cancelled") — **false of the current generator**, see `C06_identity_neg` -/
def C06_identity_statement : Prop :=
  ∀ (provs : List PSpec) (ret : Nat) (p : PlanOut), plan provs ret = .ok p →
    ∀ (env : T1F.Env) (s : T1F.St), T1F.Reach (emittedF p) env s → ∀ e, s.result = some (some e) →
      s.callerCanc = false → ∃ o, e = .prov o ∧ env.fails o = true

/-- **Known finding K6 (negation witness).**  Declaration: A Async, B Async and fallible, C(A, B) synchronous.
    B fails in its goroutine, errgroup cancels the derived context, the main thread's ctx-aware wait fires and
    the injector returns the context's cancellation error although the caller never cancelled. -/
theorem C06_identity_neg : ¬ C06_identity_statement := by
  intro hst
  obtain ⟨p, hp, hem, _⟩ := KV.Witness.K6_is_emitted
  obtain ⟨hr, hres, hq, _, hno⟩ := KV.Witness.K6_witness
  rw [← hem] at hr
  exact hno (hst _ _ p hp _ _ hr _ hres hq)

end C06

namespace KV.Witness
open T1F

/-! ## the positive theorems are not vacuous: instances on the accepted declarations above -/

/-- `C06_terminates` applies to `provsK6` (two threads, a ctx-aware wait, a fallible goroutine provider):
    its injector can always move until it has returned, for every failure set and cancellation point -/
example (env : Env) (s : St) (hr : Reach K6 env s) (hm : running s 0) : Progress K6 env s := by
  obtain ⟨p, hp, he, ha⟩ := K6_is_emitted
  rw [← he] at hr ⊢
  exact C06.C06_terminates hp ha hr hm

/-- `C06_nonnil` on `provsK6` -/
example (env : Env) (s : St) (hr : Reach K6 env s) (hf : finOf s 1 = some (.err (.prov 2))) :
    s.result ≠ some none := by
  obtain ⟨p, hp, he, _⟩ := K6_is_emitted
  have hre : p.b.isErr = true := by rw [← emittedF_retErr, he]; rfl
  rw [← he] at hr
  exact C06.C06_nonnil hre hr (t := 1) (by rw [he]; decide) hf

/-- `C06_no_dependent_failed` on `provsK8`: `S` (node 3, result variable 0) fails ⇒ `A` (node 1), which takes
    variable 0, is never about to be entered -/
example (s : St) (hr : Reach K8 envK8 s) {t : Nat} {args : List Nat}
    (hop : opAt K8 t (pc s t) = some (.enter 1 args)) : 0 ∉ args := by
  obtain ⟨p, hp, he, _⟩ := K8_is_emitted
  have hfal : fallibleOf p 3 = true := by
    have hmem : Op.exit 3 [0] true ∈ thread (emittedF p) 0 := by rw [he]; decide
    exact (emittedF_exit_flag hmem).symm
  have hnp : ¬ isParamOf p.b 0 :=
    exit_not_param hp (t := 0) (o := 3) (rets := [0]) (by rw [← eraseFlags_emittedF, he]; decide) (by decide)
  rw [← he] at hr hop
  exact C06.C06_no_dependent_failed hp hr (t' := 0) (o' := 3) (rets := [0]) (f := true) (by rw [he]; decide)
    hfal rfl (v := 0) (by decide) hnp hop


end KV.Witness
