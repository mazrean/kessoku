import KV.C05
/-! # C05 — input-free Async providers really run concurrently

Property statements only.  Two halves: (1) plan level — in the thread (pool) of an input-free Async
provider nothing precedes it except input-free *synchronous* providers, so no two of them share a thread
and none is sequenced after another Async provider or after any wait; (2) semantics — any vector of
per-thread positions whose prefixes contain no wait and no `eg.Wait` is reached simultaneously by some
schedule; and (3) their composition `C05_overlap`: for every accepted declaration there is an execution of the
emitted program in which all input-free Async providers are inside their provider function at once. -/
namespace C05
open KV

/-- **Placement.** For every accepted declaration, in every thread, an Async provider without inputs is
    preceded only by synchronous providers without inputs — whatever else the injector contains and in
    whichever order providers were declared. -/
theorem C05_placement {provs : List PSpec} {ret : Nat} {p : PlanOut} (h : plan provs ret = .ok p)
    {i : Nat} {pre post : List Nat} {a : Nat} (hpool : p.b.pools.getD i [] = pre ++ a :: post)
    (ha : isAsyncNode p.g a = true) (hz : p.g.rev.getD a [] = []) :
    ∀ m ∈ pre, isAsyncNode p.g m = false ∧ p.g.rev.getD m [] = [] :=
  plan_zfirst h hpool ha hz

/-- **No two input-free Async providers share a thread.** -/
theorem C05_distinct_threads {provs : List PSpec} {ret : Nat} {p : PlanOut} (h : plan provs ret = .ok p)
    {i : Nat} {pre mid post : List Nat} {a a' : Nat}
    (hpool : p.b.pools.getD i [] = pre ++ a :: (mid ++ a' :: post))
    (ha : isAsyncNode p.g a = true) (_hz : p.g.rev.getD a [] = [])
    (ha' : isAsyncNode p.g a' = true) (hz' : p.g.rev.getD a' [] = []) : False := by
  have hsplit : p.b.pools.getD i [] = (pre ++ a :: mid) ++ a' :: post := by
    rw [hpool, List.append_assoc, List.cons_append]
  have := C05_placement h hsplit ha' hz' a (by simp)
  rw [ha] at this
  exact Bool.noConfusion this.1

/-- **Schedules.** Positions preceded only by free operations (no wait, no `eg.Wait`), with every targeted
    goroutine spawned within the main thread's target, are reached together by some execution. -/
theorem C05_targets_reachable {P : T1.Prog} (target : Nat → Nat) (h0 : 0 < P.threads.length)
    (hfree : ∀ t, t < P.threads.length → ∀ j, j < target t → ∃ op, T1.opAt P t j = some op ∧ T1.freeOp op)
    (hspawn : ∀ g, 0 < g → g < P.threads.length → 0 < target g →
      ∃ j, T1.opAt P 0 j = some (.spawn g) ∧ j < target 0) :
    ∃ s, T1.Reach P s ∧ ∀ t, t < P.threads.length → T1.pc s t = target t :=
  T1.all_targets_reachable target h0 hfree hspawn

/-- **Overlap (composition of the two halves).** For the program emitted for any accepted declaration there is
    an execution reaching a state in which *all* emitted Async providers without inputs are inside their
    provider function at the same time (`KV.insideCall`: the thread's last executed op is the node's `enter`,
    its `exit` has not happened).  Proved in `KV/C05.lean`. -/
theorem C05_overlap {provs : List PSpec} {ret : Nat} {p : PlanOut} (h : plan provs ret = .ok p) :
    ∃ s, T1.Reach (emitted p) s ∧ ∀ a, ZeroAsync p a → insideCall (emitted p) s a :=
  KV.C05_overlap h

end C05
