import KV.DataFlow
/-! # C01 — providers run only after their dependencies, race-free, in every schedule

Property statements only.  `KV.plan` is the model of `NewGraph` + `Graph.Build` + `buildStmts` that the
correspondence check compares with the real planner on every run; `KV.emitted p` is the abstract program
(threads of wait / enter / exit / close micro-ops, spawn, `eg.Wait`, return) the generator emits for a plan;
`T1.Reach` is reachability under *every* interleaving of its threads (any provider latency is any number
of other threads' steps between `enter` and `exit`).  Unbounded in declaration size and schedule length. -/
namespace C01
open KV

/-- **Ordering.** In every reachable state, a provider (or struct-field read) that is about to be entered
    has every non-parameter input already written: the producer's `exit` — the op that writes the
    variable — lies below its thread's program counter, i.e. the producer has returned. -/
theorem C01_order {provs : List PSpec} {ret : Nat} {p : PlanOut} (h : plan provs ret = .ok p)
    {s : T1.Pcs} (hr : T1.Reach (emitted p) s) {t o : Nat} {args : List Nat} {v : Nat}
    (hop : T1.opAt (emitted p) t (T1.pc s t) = some (.enter o args)) (hv : v ∈ args)
    (hnp : ¬ isParamOf p.b v) : T1.written (emitted p) s v :=
  let ⟨hw, hd⟩ := plan_wf h
  T1.enter_after_writes hw hd hr hop hv hnp

/-- **No data race.** No reachable state has one thread about to read a provided variable (entering a
    provider that takes it) while another thread is about to write it (returning from its producer). -/
theorem C01_norace {provs : List PSpec} {ret : Nat} {p : PlanOut} (h : plan provs ret = .ok p)
    {s : T1.Pcs} (hr : T1.Reach (emitted p) s) {t t' o o' : Nat} {args rets : List Nat} {v : Nat}
    (hrd : T1.opAt (emitted p) t (T1.pc s t) = some (.enter o args)) (hv : v ∈ args) (hnp : ¬ isParamOf p.b v)
    (hwr : T1.opAt (emitted p) t' (T1.pc s t') = some (.exit o' rets)) (hv' : v ∈ rets) : False :=
  let ⟨hw, hd⟩ := plan_wf h
  T1.no_race hw hd hr hrd hv hnp hwr hv'

/-- **Single writer.** Every variable carrying a provided value is written by exactly one `exit` op, in one
    thread: "exactly the values those producers returned" — nothing else ever assigns it. -/
theorem C01_single_writer {provs : List PSpec} {ret : Nat} {p : PlanOut} (h : plan provs ret = .ok p)
    {v t o t' o' : Nat} {rets rets' : List Nat}
    (h1 : T1.Op.exit o rets ∈ T1.thread (emitted p) t) (hv : v ∈ rets)
    (h2 : T1.Op.exit o' rets' ∈ T1.thread (emitted p) t') (hv' : v ∈ rets') : t = t' ∧ o = o' ∧ rets = rets' :=
  (plan_wf h).2.singleWriter v t o rets t' o' rets' h1 hv h2 hv'

/-- **The result is read after its write too**: when the main thread is at its final `ret v`, `v` is a
    parameter or has been written (the `ret` outranks every op, and `eg.Wait` precedes it). -/
theorem C01_every_read_has_writer {provs : List PSpec} {ret : Nat} {p : PlanOut} (h : plan provs ret = .ok p)
    {t o : Nat} {args : List Nat} {v : Nat}
    (hop : T1.Op.enter o args ∈ T1.thread (emitted p) t) (hv : v ∈ args) (hnp : ¬ isParamOf p.b v) :
    ∃ t' o' rets, T1.Op.exit o' rets ∈ T1.thread (emitted p) t' ∧ v ∈ rets :=
  let ⟨t', o', rets, hex, hvr, _⟩ := (plan_wf h).2.reads t o args v hop hv hnp
  ⟨t', o', rets, hex, hvr⟩

end C01
