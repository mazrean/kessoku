import KV.Generated.Sites
import KV.Generated.Orders
import KV.Generated.OwnOutput
/-! # C11 — generation is deterministic and idempotent

Property statements only.  The sources of run-to-run variation a Go program has are goroutine scheduling,
map iteration order and reads of the environment.  `factgen` (go/types over `internal/kessoku`,
`internal/migrate`, `internal/pkg`) regenerates on every run the list of `go` statements, of calls into
`time` / `rand` / the process environment, and of every `range` over a map-typed expression.  The theorems
below say: there is no goroutine and no environment read at all, and every range over a map is one of the
sites whose effect is independent of the iteration order — for the reason recorded next to it. -/
namespace C11
open Gen

/-- why a range-over-map site cannot influence the output -/
inductive Why where
  | sortedAfter      -- the collected slice is sorted by a unique key before use
  | marksFlag        -- the body only sets `IsUsed = true` on the visited entries (idempotent, commutative)
  | perKeyFill       -- the body writes a slot determined by the key alone; slots are read in a fixed order later
  | buildsMap        -- the body only inserts the entries into another map
deriving DecidableEq, Repr

/-- the sites that have been examined, with the reason each is order-independent -/
def known : List (String × String × String × Why) := [
  ("internal/kessoku/generator.go", "Generate", "usedImports", .sortedAfter),
  ("internal/kessoku/generator.go", "InjectorProviderCallStmt.Stmt", "stmt.Provider.ReferencedImports", .marksFlag),
  ("internal/kessoku/generator.go", "generateInjectorDecl", "arg.Param.ReferencedImports", .marksFlag),
  ("internal/kessoku/generator.go", "generateInjectorDecl", "injector.Return.Param.ReferencedImports", .marksFlag),
  ("internal/kessoku/generator.go", "generateVariableSpecs", "param.ReferencedImports", .marksFlag),
  ("internal/kessoku/graph.go", "Graph.findMaximumAntichainSize", "g.edges", .perKeyFill),
  ("internal/kessoku/provider.go", "GetUsedImports", "imports", .buildsMap),
  ("internal/migrate/typeconv.go", "TypeConverter.Imports", "tc.imports", .sortedAfter)
]

def siteKnown (s : RangeSite) : Bool := known.any (fun k => k.1 == s.file && k.2.1 == s.fn && k.2.2.1 == s.expr)

/-- the generator starts no goroutine: GOMAXPROCS and scheduling cannot matter -/
theorem C11_no_goroutines : goStatements = [] := rfl

/-- the generator reads no clock, random source or environment variable -/
theorem C11_no_environment : nondetCalls = [] := rfl

/-- every `range` over a map in the generator and in migrate is one of the examined, order-independent sites -/
theorem C11_map_ranges_known : mapRanges.all siteKnown = true := by decide +kernel

/-- the site whose result *is* an ordered list sorts it afterwards in the same function -/
theorem C11_sorted_site :
    (mapRanges.filter (fun s => s.fn == "Generate")).all (·.sortsAfter) = true := by decide +kernel

/-- order-independence of the two generic shapes the sites have: setting a flag on every visited key, and
    collecting then sorting.  `entries` and `entries'` are the same map iterated in two different orders. -/
theorem C11_marking_order_independent {α : Type} [DecidableEq α] (entries entries' : List α) (h : entries.Perm entries')
    (used : α → Bool) :
    (fun k => used k || entries.contains k) = (fun k => used k || entries'.contains k) := by
  funext k
  rw [h.contains_eq]

/-! ## Left-over output of an earlier run

`Parser.ParseFile` seeds the name pool from the files of the package in loops over `pkg.Syntax` (package-level
declarations, imports).  `factgen` regenerates, for every such loop, whether its body registers names in the pool and
whether its first statement skips files carrying the generator's own header. -/

/-- a source file as the seeding loops see it -/
structure SrcFile where
  generated : Bool
  items : List String
deriving Repr

/-- what one loop feeds into the pool, in order -/
def loopSeed (l : SeedLoop) (files : List SrcFile) : List String :=
  if l.registersNames then (files.filter (fun f => !(l.skipsGenerated && f.generated))).flatMap (·.items) else []

def seedNames (loops : List SeedLoop) (files : List SrcFile) : List String := loops.flatMap (fun l => loopSeed l files)

/-- every loop of `ParseFile` that registers names skips the generator's own output (and such loops exist) -/
theorem C11_seed_loops_guarded :
    parseFileSeedLoops.all (fun l => !l.registersNames || l.skipsGenerated) = true ∧
    parseFileSeedLoops.any (·.registersNames) = true := by decide

theorem loopSeed_ignores_generated (l : SeedLoop) (hl : (!l.registersNames || l.skipsGenerated) = true)
    (files extra : List SrcFile) (hg : extra.all (·.generated) = true) :
    loopSeed l (files ++ extra) = loopSeed l files := by
  obtain ⟨r, sk⟩ := l
  cases r
  · rfl
  · obtain rfl : sk = true := hl
    have : extra.filter (fun f => !(true && f.generated)) = [] :=
      List.filter_eq_nil_iff.2 fun f hf => by rw [List.all_eq_true.mp hg f hf]; decide
    simp only [loopSeed, if_true, List.filter_append, this, List.append_nil]

/-- **Idempotence of the seeding.**  Whatever files carrying the generator's header are present next to the user's
    files — the previous output, a truncated or stale one, any number of them — the sequence of names fed into the pool
    is the one a clean directory gives; hence every name chosen afterwards is the same. -/
theorem C11_leftover_ignored (files extra : List SrcFile) (hg : extra.all (·.generated) = true) :
    seedNames parseFileSeedLoops (files ++ extra) = seedNames parseFileSeedLoops files := by
  rw [seedNames, seedNames, List.flatMap_def, List.flatMap_def]
  exact congrArg List.flatten (List.map_congr_left fun l hl =>
    loopSeed_ignores_generated l (List.all_eq_true.mp C11_seed_loops_guarded.1 l hl) files extra hg)

/-- non-vacuity: an unguarded registering loop *would* see the left-over file -/
example : seedNames [⟨true, false⟩] ([⟨false, ["App"]⟩] ++ [⟨true, ["app0"]⟩]) ≠ seedNames [⟨true, false⟩] [⟨false, ["App"]⟩] := by
  decide

/-- the file a run is about to overwrite takes no part in type checking the package: `initializePackages` installs a
    `ParseFile` hook that, for the path `outputFileName(filename)`, drops the declarations and imports of whatever a
    previous run left there (regenerated from parser.go; before fix 59c6e51 there was no such hook and a stale injector
    could win over a user declaration of the same name) -/
theorem C11_own_output_not_type_checked :
    Gen.ownOutputHook = true ∧ (["Decls", "Imports"].all (fun f => Gen.ownOutputBlankedFields.contains f)) = true := by decide

end C11
