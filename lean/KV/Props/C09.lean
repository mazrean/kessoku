import KV.DataFlow
import KV.Acyclic
import KV.Generated.Orders
import KV.Refuse
import KV.Accept
import KV.Generated.SetLoop
/-! # C09 — unsatisfiable graphs are refused, satisfiable ones accepted, never mis-generated

Property statements only. -/
namespace C09
open KV

/-- **A reachable cycle is never accepted.** Whenever the planner accepts, every edge of the planned graph
    whose consumer is emitted goes strictly forward in the emission order — so no dependency cycle among
    the needed providers can survive, whatever the cycle detector does. -/
theorem C09_no_cycle_accepted {provs : List PSpec} {ret : Nat} {p : PlanOut} (h : plan provs ret = .ok p)
    {n m : Nat} {e : Edge} (he : e ∈ p.g.edges.getD n []) (hm : e.dst = m) (hmo : m ∈ topoOrder p.g) :
    n ∈ topoOrder p.g ∧ (topoOrder p.g).idxOf n < (topoOrder p.g).idxOf m :=
  accepted_edge_forward h he hm hmo

/-- **Refusal leaves the output file alone.** In `processFile` (regenerated call order) every injector of
    the file is planned — and any planning error returned — before the only file-system call, `os.Create`;
    `ProcessFiles` and `main` propagate the error to a non-zero exit. -/
theorem C09_no_write_on_refusal :
    Gen.processFileCalls.map (·.name) = ["p.parser.ParseFile", "CreateInjector", "os.Create", "Generate"] ∧
    Gen.processFileCalls.all (·.errReturns) = true ∧
    Gen.processFilesCalls = [⟨"p.processFile", true, true⟩] ∧
    Gen.mainCalls.map (·.name) = ["config.Run", "os.Exit"] := ⟨rfl, rfl, rfl, rfl⟩

/-- **Duplicate supplier (functions, interface bindings).** If two different function providers each list type
    key `t` in a result group (a bound interface is an extra key of its group), the planner refuses the
    declaration, whatever the requested type, with a `dup` diagnostic. -/
theorem C09_refuse_dup {provs : List PSpec} {i j : Nat} {pi pj : PSpec} {t : Nat} (ret : Nat)
    (hij : i ≠ j) (hi : provs[i]? = some pi) (hj : provs[j]? = some pj)
    (hki : pi.kind ≠ 1) (hkj : pj.kind ≠ 1) (hti : Lists pi t) (htj : Lists pj t) :
    ∃ t', newGraph2 provs ret = .error (.dup t') :=
  dup_refused ret hij hi hj hki hkj hti htj

/-- **Duplicate supplier through expanded struct fields** (a field type also supplied by a function provider, two
    fields of one struct with the same type, or two struct expansions with a common field type): refused. -/
theorem C09_refuse_field_dup {provs : List PSpec} (ret : Nat) (hc : FieldClash provs) :
    ∃ e, newGraph2 provs ret = .error e ∧ DupOrOrphan e :=
  field_dup_refused ret hc

/-- **Orphan struct expansion.** A `Struct[T]()` whose struct type nobody supplies — no function provider lists it
    and it is not a field type of any expanded struct, *wherever that struct is declared* (struct expansion now
    iterates to a fixpoint, so the declaration order plays no role) — is refused: with the `orphan` diagnostic of
    some `Struct` provider that never gets a source (this one, or another one: the first still pending when a round
    makes no progress), unless an earlier step already failed with a `dup`. -/
theorem C09_refuse_orphan {provs : List PSpec} {sp : PSpec} (ret : Nat)
    (hsp : sp ∈ provs) (hk : sp.kind = 1)
    (hnofun : ∀ q ∈ provs, q.kind ≠ 1 → ¬ Lists q sp.structTy)
    (hnofield : sp.structTy ∉ allFieldTys (structsOf provs)) :
    ∃ e, newGraph2 provs ret = .error e ∧
      ((∃ sp' ∈ provs, sp'.kind = 1 ∧ ¬ Sourced provs sp'.structTy ∧ e = .orphan sp'.structTy) ∨ (∃ t, e = .dup t)) :=
  orphan_refused ret hsp hk hnofun hnofield

/-- the same for every `Struct[T]()` that never gets a source (`KV.Sourced`: listed by a function provider, or —
    recursively — a field type of a `Struct` provider whose own struct type is sourced): this also covers struct
    expansions that are fields only of each other, or of a struct expansion that is itself an orphan. -/
theorem C09_refuse_orphan_unsourced {provs : List PSpec} {sp : PSpec} (ret : Nat)
    (hsp : sp ∈ provs) (hk : sp.kind = 1) (hns : ¬ Sourced provs sp.structTy) :
    ∃ e, newGraph2 provs ret = .error e ∧
      ((∃ sp' ∈ provs, sp'.kind = 1 ∧ ¬ Sourced provs sp'.structTy ∧ e = .orphan sp'.structTy) ∨ (∃ t, e = .dup t)) :=
  orphan_refused_unsourced ret hsp hk hns

/-- conversely, a declaration whose struct expansions are all sourced is never refused as `orphan` by the first two
    passes: with a field clash the diagnostic is a `dup` -/
theorem C09_refuse_field_dup_exact {provs : List PSpec} (ret : Nat) (hc : FieldClash provs) (hs : StructsSourced provs) :
    ∃ t, newGraph2 provs ret = .error (.dup t) :=
  field_dup_refused_dup ret hc hs

/-- **Reachable cycle (of any length, including a provider requiring its own output, also through expanded
    struct fields).** If a provider reachable from the supplier of the requested type lies on a cycle of the
    "needs" relation, the planner does not accept the declaration. -/
theorem C09_refuse_cycle {provs0 : List PSpec} {ret : Nat} {provs : List PSpec} {sup : SupMap} {rp ri q : Nat}
    (hexp : expand provs0 = .ok (provs, sup)) (hret : sup.lookup ret = some (rp, ri))
    (hreach : KV.Reach (Needs provs sup) rp q) (hcyc : Relation.TransGen (Needs provs sup) q q) :
    ∃ e, plan provs0 ret = .error e :=
  cycle_refused hexp hret hreach hcyc

/-- the same at the level of the declared function providers only -/
theorem C09_refuse_cycle_decl {provs0 : List PSpec} {ret rp q : Nat} {prp : PSpec}
    (hrp : provs0[rp]? = some prp) (hk : prp.kind ≠ 1) (hl : Lists prp ret)
    (hreach : KV.Reach (NeedsFn provs0) rp q) (hcyc : Relation.TransGen (NeedsFn provs0) q q) :
    ∃ e, plan provs0 ret = .error e :=
  cycle_refused_decl hrp hk hl hreach hcyc

/-- **Never mis-generated.** The graph of an accepted declaration has no cycle at all. -/
theorem C09_accepted_acyclic {provs : List PSpec} {ret : Nat} {p : PlanOut} (h : plan provs ret = .ok p) (n : Nat) :
    ¬ Path p.g n n :=
  accepted_acyclic h n

/-- **Acceptance.**  A declaration that is unambiguous and whose struct expansions all have a source, in whatever
    order they are declared (`supplierMap` succeeds; see `KV.supplierMap_ok_iff`), whose requested type has a supplier, and whose needed providers contain no cycle is
    accepted by the planner.  (The hypothesis that the requested type has a supplier is the recorded finding
    `identity-injector-refused`.) -/
theorem C09_accept {provs0 : List PSpec} {ret : Nat} {provs : List PSpec} {sup : SupMap} {rp ri : Nat}
    (hexp : supplierMap provs0 = .ok (provs, sup)) (hret : sup.lookup ret = some (rp, ri))
    (hacyc : ∀ q, KV.Reach (Needs provs sup) rp q → ¬ Relation.TransGen (Needs provs sup) q q) :
    ∃ p, plan provs0 ret = .ok p :=
  accepted_of_acceptable hexp hret hacyc

/-- **Exact characterisation**: with an unambiguous, fully sourced declaration and a supplied requested type, the
    planner accepts iff no needed provider lies on a dependency cycle. -/
theorem C09_accept_iff {provs0 : List PSpec} {ret : Nat} {provs : List PSpec} {sup : SupMap} {rp ri : Nat}
    (hexp : supplierMap provs0 = .ok (provs, sup)) (hret : sup.lookup ret = some (rp, ri)) :
    (∃ p, plan provs0 ret = .ok p) ↔
      (∀ q, KV.Reach (Needs provs sup) rp q → ¬ Relation.TransGen (Needs provs sup) q q) :=
  accepted_iff_acyclic hexp hret

/-- the known deviation, as a theorem about the model: a requested type nobody supplies is refused -/
theorem C09_identity_refused_witness : (match plan [] 5 with | .error .noInitial => true | _ => false) = true := by decide

/-- the loop that resolves a `kessoku.Set` argument to its `kessoku.Set(...)` call makes progress in every iteration:
    each case of its type switch either ends the loop (`callExpr` assigned), replaces the expression it looks at, or
    leaves the function, and there is a default case — no form of expression can keep the generator spinning
    (regenerated from parser.go; before fix 1ade2f4 there was no default and `(ConfigSet)` / `lib.Set` hung the run) -/
theorem C09_set_resolution_progresses :
    Gen.setLoopHasDefault = true ∧
    (Gen.setLoopCases.all (fun c => c.2 == "assigns callExpr" || c.2 == "assigns currentArg" || c.2 == "returns")) = true := by decide

end C09
