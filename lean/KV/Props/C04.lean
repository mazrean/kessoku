import KV.Props.C12
import KV.Hygiene
import KV.GenConvProofs
import KV.Generated.TypeCases
/-! # C04 — successful generation always yields compilable, hygienic Go

Property statements only.  "Compiles" is a verdict of the Go type checker, which Lean does not contain; what
is proved here is the allocator part of hygiene (every identifier the generator obtains from its name pool is
fresh with respect to reserved words, predeclared identifiers, package-level names and every earlier generated
name — for any number of injectors and files of one invocation, since they share one pool), and the reserved
lists being complete.  The remaining clauses are tied by the end-to-end correspondence: every sampled output is
type-checked by the real compiler together with the user's package (see DESIGN.md §4 C04 for the known
findings: hard-coded locals `eg ctx ch zero err errgroup`, type-expression rendering).

The second half (`C04_declared_vars_used` … `C04_no_blank_call`, proofs in `KV/Hygiene.lean`) is the structural part of
"the emitted function compiles": Go rejects a local that is *declared and not used*, and the generator declares
`var x T` for every result parameter not written `_` (model: `refs ≠ 0`) and `xCh := make(chan struct{})` for every
parameter with `withChan`.  For every accepted declaration (`plan provs ret = .ok p`, unbounded size) the two
counters set in the second pass of `Build` agree exactly with the ops of the emitted program `emitted p`. -/
namespace C04
open VP

/-- generated identifiers never clash with each other, with a keyword / predeclared identifier, or with a
    pre-registered package-level name, across the whole request history of an invocation -/
theorem C04_names_fresh (p p' : Pool) (reqs outs : List String) (h : runFix p reqs = some (p', outs)) :
    outs.Nodup ∧ (∀ o ∈ outs, count p o = 0) ∧ (∀ k, 0 < count p k → 0 < count p' k) :=
  let ⟨a, b, c, _⟩ := C12.C12_fresh p p' reqs outs h
  ⟨a, b, c⟩

/-- the reserved lists the pool starts from contain every keyword and predeclared identifier of the language -/
theorem C04_reserved_complete :
    C12.goKeywords.all (fun k => Gen.keywords.contains k) = true ∧
    C12.goPredeclared.all (fun k => Gen.predeclared.contains k) = true :=
  ⟨C12.C12_reserved_complete.2.1, C12.C12_reserved_complete.2.2.1⟩

/-- the local identifiers the emitter introduces by itself (errgroup variable, channel loop variable, zero value)
    are reserved in the pool, so no provided value, channel, error variable, parameter or import alias is given
    one of these names -/
theorem C04_emitter_locals_reserved :
    ["eg", "ch", "zero"].all (fun k => Gen.generatorLocals.contains k) = true ∧
    Gen.generatorLocals.all (fun k => decide (0 < count seedPool k)) = true :=
  ⟨by decide, List.all_eq_true.mpr fun k hk =>
    List.all_eq_true.mp C12.C12_seed_reserved k (List.mem_append_right _ hk)⟩

/-! ## structural hygiene of the emitted function: declared ⇒ used -/
section Hygiene
open KV

/-- **Every declared variable is used, and only used variables are declared.**  A parameter is given a name
    (`refs ≠ 0`; with `refs = 0` the emitter writes `_` and declares nothing) iff some emitted call takes it as an
    argument or it is the operand of the final `return`.  So no `var x T` / `x := f()` of the emitted Go is
    "declared and not used", and nothing that is read was written `_`. -/
theorem C04_declared_vars_used {provs : List PSpec} {ret : Nat} {p : PlanOut} (h : plan provs ret = .ok p) (v : Nat) :
    (p.b.params.getD v default).refs ≠ 0 ↔
      ((∃ t o args, T1.Op.enter o args ∈ T1.thread (emitted p) t ∧ v ∈ args) ∨
        T1.Op.ret v ∈ T1.thread (emitted p) 0) :=
  refs_ne_zero_iff h v

/-- **`refs` counts the readers exactly**: the number of (consumer call, argument slot) pairs the graph wires to the
    variable (`wiredTo`: one graph edge each), plus one for the `return`. -/
theorem C04_refs_count {provs : List PSpec} {ret : Nat} {p : PlanOut} (h : plan provs ret = .ok p) {v : Nat}
    (hv : v < p.b.params.length) :
    (p.b.params.getD v default).refs = (if v = p.b.retParam then 1 else 0) + (wiredTo p v).length :=
  refs_eq_count h hv

/-- **Every declared channel is used on both sides, and only then declared.**  `withChan c` (the emitter declares
    `cCh := make(chan struct{})`) iff some emitted statement receives from it (`wait _ c`), iff some emitted
    statement closes it; it is closed by one op only, and every receiver runs in a different thread (goroutine)
    than the closer: `withChan` is exactly "a consumer in another thread waits". -/
theorem C04_channel_iff_waited {provs : List PSpec} {ret : Nat} {p : PlanOut} (h : plan provs ret = .ok p) (c : Nat) :
    ((p.b.params.getD c default).withChan = true ↔ ∃ t o, T1.Op.wait o c ∈ T1.thread (emitted p) t) ∧
    ((p.b.params.getD c default).withChan = true ↔ ∃ t o, T1.Op.close o c ∈ T1.thread (emitted p) t) ∧
    (∀ t o t' o', T1.Op.close o c ∈ T1.thread (emitted p) t → T1.Op.close o' c ∈ T1.thread (emitted p) t' →
      t = t' ∧ o = o') ∧
    (∀ t o t' o', T1.Op.wait o c ∈ T1.thread (emitted p) t → T1.Op.close o' c ∈ T1.thread (emitted p) t' →
      t ≠ t') :=
  ⟨withChan_iff_wait h c, withChan_iff_close h c,
   fun t o t' o' h1 h2 => (plan_wf h).2.closeUnique c t o t' o' h1 h2,
   fun _ _ _ _ hw hc => wait_other_thread h hw hc⟩

/-- **Injector arguments are plain function parameters**: the parameters flagged `isArg` are exactly those of the
    injector's signature (`p.b.args`), they never get a completion channel, no emitted call assigns them, and no
    emitted statement receives from or closes a channel of theirs. -/
theorem C04_args_plain {provs : List PSpec} {ret : Nat} {p : PlanOut} (h : plan provs ret = .ok p) (v : Nat) :
    (v ∈ p.b.args ↔ (v < p.b.params.length ∧ (p.b.params.getD v default).isArg = true)) ∧
    ((p.b.params.getD v default).isArg = true →
      (p.b.params.getD v default).withChan = false ∧
      (∀ t o rets, T1.Op.exit o rets ∈ T1.thread (emitted p) t → v ∉ rets) ∧
      (∀ t o, T1.Op.wait o v ∉ T1.thread (emitted p) t) ∧
      (∀ t o, T1.Op.close o v ∉ T1.thread (emitted p) t)) :=
  ⟨isArg_iff_mem_args h v, fun hv => arg_plain h hv⟩

/-- **Every argument of an emitted call is a declared thing**: an allocated parameter that has a name
    (`refs ≠ 0`, so no call reads `_`), and if it is flagged `isArg` it is one of the injector's own parameters. -/
theorem C04_call_args_declared {provs : List PSpec} {ret : Nat} {p : PlanOut} (h : plan provs ret = .ok p)
    {t o v : Nat} {args : List Nat} (hen : T1.Op.enter o args ∈ T1.thread (emitted p) t) (hv : v ∈ args) :
    v < p.b.params.length ∧ (p.b.params.getD v default).refs ≠ 0 ∧
      ((p.b.params.getD v default).isArg = true → v ∈ p.b.args) :=
  let ⟨h1, h2⟩ := call_args_declared h hen hv
  ⟨h1, h2, fun ha => (isArg_iff_mem_args h v).mpr ⟨h1, ha⟩⟩

/-- **No emitted call discards all of its results**: some result of every emitted call has a name, so the emitter
    never writes `_, _ := f()` ("no new variables on left side of :="). -/
theorem C04_no_blank_call {provs : List PSpec} {ret : Nat} {p : PlanOut} (h : plan provs ret = .ok p)
    {t o : Nat} {rets : List Nat} (hex : T1.Op.exit o rets ∈ T1.thread (emitted p) t) :
    ∃ v ∈ rets, (p.b.params.getD v default).refs ≠ 0 :=
  exit_some_used h hex

/-- non-vacuity: a declaration whose second result is never read (`refs = 0`, written `_`) … -/
example : paramFlags twoResults 1 = some [(true, 1, false), (false, 1, false), (false, 0, false)] := by decide +kernel
/-- … and one with two completion channels (`diamondA`, two threads) -/
example : (paramFlags diamondA 1).map (·.map (·.2.2)) = some [false, true, true, false, false] := by decide +kernel

end Hygiene

/-! ## the types the generator spells (`createASTTypeExpr`; model `KV/GenConv.lean`, proofs `KV/GenConvProofs.lean`) -/

/-- every type the generator spells from type information (injector parameters, results, variables) denotes, in the
    generated file, the type it was spelled from; the local names it gives to imports are fresh in the name pool
    (no clash with reserved words, the user's package-level identifiers, variables or other imports), and it adds no
    import the spelled types do not use -/
theorem C04_types_roundtrip (cur : Nat) (pname : Nat → String) (pool : VP.Pool) (ts : List GConv.Ty) (st' : GConv.St)
    (es : List GConv.Ex) (hwf : GConv.WFList ts = true)
    (h : GConv.renderList cur pname { pool := pool, imports := [] } ts = some (st', es)) :
    GConv.resolveList cur st' es = some ts ∧
    (∀ p n, st'.imports.lookup p = some n → VP.count pool n = 0 ∧ n ∈ GConv.qualsList es) ∧
    (∀ p q n, st'.imports.lookup p = some n → st'.imports.lookup q = some n → p = q) := by
  obtain ⟨hrt, hi', hnew⟩ := GConv.renderList_of_no_imports rfl hwf h
  exact ⟨hrt, hnew, fun p q n hp hq => Option.some.inj ((hi'.2 p n hp).symm.trans (hi'.2 q n hq))⟩

/-- spelling a type never fails -/
theorem C04_types_total (cur : Nat) (pname : Nat → String) (st : GConv.St) (ts : List GConv.Ty) :
    GConv.renderList cur pname st ts ≠ none :=
  GConv.renderList_total cur pname st ts

/-- `createASTTypeExpr` has a case for every kind of `types.Type` a value can have (regenerated from the type switch of
    graph.go); the default branch refuses the type with an error instead of guessing a spelling -/
theorem C04_type_kinds_covered :
    (["Named", "Alias", "Pointer", "Slice", "Array", "Map", "Chan", "Signature", "Struct", "Interface", "Basic"].all (fun k => Gen.createASTTypeExprCases.contains k)) = true ∧
    Gen.createASTTypeExprDefault = "nil" := by decide +kernel

end C04

#print axioms C04.C04_types_roundtrip
#print axioms C04.C04_types_total
