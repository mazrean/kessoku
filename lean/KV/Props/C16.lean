import KV.Generated.Agents
import KV.Generated.Install
/-! # C16 — every agent installs the full skill tree exactly where documented

Property statements only.  The agent registry, the kong sub-commands, `ResolvePath`'s branch order and the
README's path table are regenerated from the source by `factgen` (`KV/Generated/Agents.lean`); every
theorem below is about those regenerated terms.  The agent table is finite, so evaluation by the kernel
over the whole table is a proof of the "for every supported agent" clause; custom path, `$HOME` and the
working directory are universally quantified. -/
namespace C16
open Gen

/-- documented (project, user) location of the agent with sub-command `name`, as spelled in the README
    (`.claude/skills/`, `~/.claude/skills/`) -/
def documented (name : String) : Option (String × String) :=
  match (readmeAgents.find? (fun da => da.2 == name)) with
  | none => none
  | some da => (readmePaths.find? (fun r => r.1 == da.1)).map (fun r => (r.2.1, r.2.2))

/-- model of `ResolvePath` + `resolveUserPath` / `resolveProjectPath`: priority custom > --user > project.
    `abs` stands for `filepath.Abs` (trusted); `filepath.Join(a, b)` of clean relative `b` is `a/b`. -/
def installBase (abs : String → String) (r : AgentRow) (custom : String) (user : Bool) (home cwd : String) : String :=
  if custom ≠ "" then abs custom else if user then home ++ "/" ++ r.user else cwd ++ "/" ++ r.proj

/-- `~/x` with the home directory substituted for `~` -/
def expandTilde (home : String) (s : String) : String :=
  match s.toList with
  | '~' :: rest => home ++ String.ofList rest
  | _ => s

/-- what the documentation promises, written directly from the README table -/
def documentedBase (abs : String → String) (d : String × String) (custom : String) (user : Bool) (home cwd : String) : String :=
  if custom ≠ "" then abs custom ++ "/" else if user then expandTilde home d.2 else cwd ++ "/" ++ d.1

def rowDocumented (r : AgentRow) : Bool :=
  match documented r.name with
  | some d => d.1 == r.proj ++ "/" && d.2 == "~/" ++ r.user ++ "/"
  | none => false

/-- the regenerated branch order of `ResolvePath` is the one `installBase` models -/
theorem C16_resolve_order :
    resolveBranches = ["customPath != \"\" => filepath.Abs(customPath)", "userFlag => resolveUserPath(agent)",
                       "else => resolveProjectPath(agent)"] ∧
    resolveUserPath = ["home := os.UserHomeDir()", "err != nil => \"\"", "else => filepath.Join(home,agent.UserSubPath())"] ∧
    resolveProjectPath = ["cwd := os.Getwd()", "err != nil => \"\"", "else => filepath.Join(cwd,agent.ProjectSubPath())"] ∧
    runInstallArgs = ["agent", "c.Path", "c.User"] := ⟨rfl, rfl, rfl, rfl⟩

/-- every registered agent has a README row and its sub-paths are the documented ones -/
theorem C16_table : agents.all rowDocumented = true := by decide +kernel

theorem expandTilde_doc (home u : String) : expandTilde home ("~/" ++ u) = home ++ "/" ++ u := by
  unfold expandTilde
  have : ("~/" ++ u).toList = '~' :: '/' :: u.toList := by simp [String.toList_append]
  rw [this]
  simp [String.append_assoc]

/-- **Install root.** For every registered agent and every combination of `--path`, `--user`, `$HOME` and
    working directory, the base directory the installer resolves is the documented one. -/
theorem C16_root (abs : String → String) (r : AgentRow) (hr : r ∈ agents) (custom : String) (user : Bool) (home cwd : String) :
    ∃ d, documented r.name = some d ∧
      installBase abs r custom user home cwd ++ "/" = documentedBase abs d custom user home cwd := by
  have h := List.all_eq_true.mp C16_table r hr
  unfold rowDocumented at h
  cases hd : documented r.name with
  | none => rw [hd] at h; simp at h
  | some d =>
    rw [hd] at h
    simp only [Bool.and_eq_true, beq_iff_eq] at h
    refine ⟨d, rfl, ?_⟩
    unfold installBase documentedBase
    by_cases hc : custom ≠ ""
    · simp [hc]
    · simp only [hc, if_false]
      cases user
      · simp [h.1, String.append_assoc]
      · simp [h.2, String.append_assoc, expandTilde_doc]

/-- **Sub-commands.** The CLI offers exactly one sub-command per registered agent, named like the agent, and
    these are exactly the agents the README documents. -/
theorem C16_cli :
    cliSubcommands.map (·.2) = (cliSubcommands.map (·.1)).filterMap (fun n => (agents.find? (fun r => r.name == n)).map (·.typ)) ∧
    (cliSubcommands.map (·.1)).Nodup ∧ (agents.map (·.name)).Nodup ∧
    (agents.map (·.name)).all (fun n => (cliSubcommands.map (·.1)).contains n) = true ∧
    (cliSubcommands.map (·.1)).all (fun n => (agents.map (·.name)).contains n) = true ∧
    (readmeAgents.map (·.2)).all (fun n => (agents.map (·.name)).contains n) = true ∧
    (agents.map (·.name)).all (fun n => (readmeAgents.map (·.2)).contains n) = true ∧
    (readmeAgents.map (·.2)).Nodup := by decide +kernel

/-- **Skill tree.** Every agent installs the same embedded tree `skills/kessoku-di` under the directory name
    `kessoku-di`, with the documented file mode. -/
theorem C16_tree :
    agents.all (fun r => r.dir == "kessoku-di" && r.src == "skills/kessoku-di" && r.fs == "EXPR:defaultSkillsFS") = true ∧
    fileMode = 0o644 := by decide

example : agents.length = 9 := by decide
example : documented "amp" = some (".agents/skills/", "~/.config/agents/skills/") := by decide

/-- **The documented locations depend on `$HOME` and the working directory only.**  The regenerated list of reads of the
    process environment in `internal/llmsetup` is exactly the home directory (for `--user`) and the working directory
    (for project installs and relative `--path`): no `XDG_*`, `APPDATA` or tool-specific variable can redirect an
    installation. -/
theorem C16_environment_reads :
    llmsetupEnvReads = ["path.go:resolveProjectPath:os.Getwd()", "path.go:resolveUserPath:os.UserHomeDir()"] := rfl

end C16
