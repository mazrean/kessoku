import KV.DataFlow
import KV.T1
import KV.Emit
/-! # C03 — injectors terminate and join all their goroutines on success

Property statements only; fault-free, uncancelled runs (`T1` semantics), every interleaving, every
accepted declaration. -/
namespace C03
open KV

/-- **No deadlock.** Whatever the program counters (reachable or not), if some thread still has an
    operation to execute then some thread can take a step: a wait is never for a signal nobody sends. -/
theorem C03_progress {provs : List PSpec} {ret : Nat} {p : PlanOut} (h : plan provs ret = .ok p)
    (s : T1.Pcs) (hpend : ∃ t op, T1.Pending (emitted p) s t op) : ∃ t, T1.Enabled (emitted p) s t :=
  T1.progress (plan_wf h).1 hpend

/-- **Termination.** Every run takes at most as many steps as the program has operations. -/
theorem C03_bounded {provs : List PSpec} {ret : Nat} {p : PlanOut} (_h : plan provs ret = .ok p)
    {n : Nat} {s : T1.Pcs} (hr : T1.ReachN (emitted p) n s) : n ≤ T1.total (emitted p) :=
  T1.steps_bounded hr

/-- **Every waited signal has a sender** of strictly smaller rank (it is sent before, never by the waiter's
    own future). -/
theorem C03_every_wait_has_closer {provs : List PSpec} {ret : Nat} {p : PlanOut} (h : plan provs ret = .ok p)
    {t o c : Nat} (hw : T1.Op.wait o c ∈ T1.thread (emitted p) t) :
    ∃ t' o', T1.Op.close o' c ∈ T1.thread (emitted p) t' ∧
      rankOfPlan p (.close o' c) < rankOfPlan p (.wait o c) :=
  (plan_wf h).1.waitClose t o c hw

/-- **No completion is signalled twice**: a channel is closed by one op of one thread only. -/
theorem C03_close_once {provs : List PSpec} {ret : Nat} {p : PlanOut} (h : plan provs ret = .ok p)
    {c t o t' o' : Nat} (h1 : T1.Op.close o c ∈ T1.thread (emitted p) t)
    (h2 : T1.Op.close o' c ∈ T1.thread (emitted p) t') : t = t' ∧ o = o' :=
  (plan_wf h).2.closeUnique c t o t' o' h1 h2

/-- **Joined.** When the injector is about to return (main thread at its `ret`), every goroutine it started
    has executed all of its operations. -/
theorem C03_joined {provs : List PSpec} {ret : Nat} {p : PlanOut} (h : plan provs ret = .ok p)
    {s : T1.Pcs} (hr : T1.Reach (emitted p) s) {v : Nat}
    (hret : T1.opAt (emitted p) 0 (T1.pc s 0) = some (.ret v))
    {g : Nat} (hg : 0 < g) (hgl : g < (emitted p).threads.length) : T1.threadDone (emitted p) s g :=
  T1.joined_at_ret (plan_wf h).1 hr hret (T1.egwait_mem_emit _ _ _ (Nat.lt_of_le_of_lt hg hgl))
    (Nat.lt_succ_self _) hg hgl

end C03
