import KV.Props.C06
/-! # C07 — cancellation never hangs the injector nor yields a silent partial result

Property statements only (semantics and emission as in `KV/Props/C06.lean`).  True for injectors with an
`error` result; **false without one** (known finding K7): the main thread then uses plain receives while
goroutines leave through their ctx-aware waits without closing their channels. -/
open KV
namespace C07

/-- **C07, injectors with an error result never hang.** With a context parameter (`hasAsyncNodes`) and an
    `error` result every wait is ctx-aware, so `AllWaitsCtxAware` holds by itself: while the injector has not
    returned, some thread can move — for every failure set, every cancellation point, every interleaving. -/
theorem C07_with_error {provs : List PSpec} {ret : Nat} {p : PlanOut} (h : plan provs ret = .ok p)
    (hasync : hasAsyncNodes p.g = true) (hre : p.b.isErr = true) {env : T1F.Env} {s : T1F.St}
    (hr : T1F.Reach (emittedF p) env s) (hmain : T1F.running s 0) : T1F.Progress (emittedF p) env s :=
  C06.C06_terminates h (allWaitsCtxAware_of_async hasync (Or.inl hre)) hr hmain

/-- **C07, a value means complete.** If the injector (with an `error` result) returns a value, every goroutine
    ran all its ops.  Holds for every plan; no side condition. -/
theorem C07_value_complete {p : PlanOut} (hre : p.b.isErr = true) {env : T1F.Env} {s : T1F.St}
    (hr : T1F.Reach (emittedF p) env s) (hres : s.result = some none) :
    ∀ t, 0 < t → t < (emittedF p).threads.length → ∀ j op, T1F.opAt (emittedF p) t j = some op → j < T1F.pc s t :=
  T1F.value_means_complete (emittedF_retShape p) hre hr hres


/-- the full statement ("if the caller's context is cancelled at any point the injector still returns") -/
def C07_statement : Prop :=
  ∀ (provs : List PSpec) (ret : Nat) (p : PlanOut), plan provs ret = .ok p →
    ∀ (env : T1F.Env) (s : T1F.St), T1F.Reach (emittedF p) env s → T1F.running s 0 → T1F.Progress (emittedF p) env s

/-- **Known finding K7 (negation witness).**  Declaration: A, B(A), C(A) Async, D(A, B, C) synchronous, no
    provider returns `error`.  The caller cancels; a goroutine leaves through its ctx-aware wait without
    closing its channel; the main thread sits in a plain receive forever: no step changes the state. -/
theorem C07_neg : ¬ C07_statement := by
  intro hst
  obtain ⟨p, hp, hem, _⟩ := KV.Witness.K7_is_emitted
  obtain ⟨hr, hrun, _, _, hnp⟩ := KV.Witness.K7_witness ⟨fun _ => false⟩
  rw [← hem] at hr hnp
  exact hnp (hst _ _ p hp _ _ hr hrun)

end C07
