import KV.ImportsProofs
import KV.TypeConvProofs
import KV.ReservedProofs
import KV.WriteLast
import KV.Generated.Orders
import KV.Generated.TypeCases
/-! # C14 — migration output: import aliases, sets once, deterministic, no write on failure

Property statements; the proofs are in `KV/ImportsProofs.lean`, `KV/TypeConvProofs.lean`, `KV/ReservedProofs.lean` and
`KV/WriteLast.lean`.
`Imp.addImport` is the model of `TypeConverter.AddImport` (`internal/migrate/typeconv.go`), `Imp.runImports` a
whole history of such calls starting from a fresh converter, `Imp.importSpecs` / `Imp.sortedSpecs` the model of
`Imports()` followed by the writer's sort, `Imp.mergeSets` the duplicate-set check of `mergeResults`, and the
call lists of `MigrateFiles`, `Writer.Write` and `main` are regenerated from the sources
(`KV/Generated/Orders.lean`). -/
namespace C14
open Imp

/-- **The alias search terminates.**  The unbounded `for` loop of `AddImport` always finds an unused alias within
    `len(used) + 1` steps, so `AddImport` and every history of `AddImport` calls produce a result (the model's
    fuel never runs out). -/
theorem C14_alias_total :
    (∀ used base c, findAlias used base (used.length + 1) c ≠ none) ∧
    (∀ tc path desired, addImport tc path desired ≠ none) ∧
    (∀ tc ops, runImports tc ops ≠ none) :=
  ⟨findAlias_total, addImport_total, runImports_total⟩

/-- **Alias consistency over every history.**  Starting from a fresh converter, any two calls return the same
    qualifier exactly when they ask for the same package path; each call's result is the name the final import
    table holds for its path. -/
theorem C14_alias_consistent {tc' : TC} {ops : List (Nat × String)} {ns : List String}
    (hr : runImports TC.empty ops = some (tc', ns)) :
    ns.length = ops.length ∧
    (∀ i (hi : i < ops.length) (hi' : i < ns.length), tc'.imports.lookup (ops[i]).1 = some ns[i]) ∧
    (∀ i j (hi : i < ops.length) (hj : j < ops.length) (hi' : i < ns.length) (hj' : j < ns.length),
      (ops[i]).1 = (ops[j]).1 ↔ ns[i] = ns[j]) :=
  ⟨runImports_length hr, runImports_names hr, alias_consistent_from inv_empty hr⟩

/-- **No two packages share a local name.**  In every state reachable from a fresh converter the two tables are
    mutually inverse, hence two paths with the same local name are the same path. -/
theorem C14_alias_injective {tc' : TC} {ops : List (Nat × String)} {ns : List String}
    (hr : runImports TC.empty ops = some (tc', ns)) :
    Inv tc' ∧ ∀ p q n, tc'.imports.lookup p = some n → tc'.imports.lookup q = some n → p = q :=
  ⟨runImports_inv inv_empty hr, fun _ _ _ hp hq => alias_injective (runImports_inv inv_empty hr) hp hq⟩

/-- **Each package is imported once.**  In every reachable state the paths of the import table, and therefore
    of the emitted import specs, are pairwise distinct; an entry, once made, is never changed. -/
theorem C14_import_once {tc' : TC} {ops : List (Nat × String)} {ns : List String} (lastElem : Nat → String)
    (hr : runImports TC.empty ops = some (tc', ns)) :
    KeysNodup tc' ∧ ((importSpecs lastElem tc').map (·.1)).Nodup ∧
    (∀ tc1 tc2 ops2 ns2 q m, runImports tc1 ops2 = some (tc2, ns2) → tc1.imports.lookup q = some m →
      tc2.imports.lookup q = some m) :=
  ⟨runImports_keysNodup keysNodup_empty hr, importSpecs_nodup lastElem (runImports_keysNodup keysNodup_empty hr),
   fun _ _ _ _ _ _ h2 hq => runImports_keeps h2 hq⟩

/-- **The import block does not depend on map iteration order.**  Two enumerations of the same specs (paths
    distinct) give the same sorted list; the sorted list is a permutation of the input ordered by path. -/
theorem C14_imports_order_independent {l₁ l₂ : List (Nat × Option String)} (hp : l₁.Perm l₂)
    (hnd : (l₁.map (·.1)).Nodup) :
    sortedSpecs l₁ = sortedSpecs l₂ ∧ (sortedSpecs l₁).Perm l₁ ∧
    (sortedSpecs l₁).Pairwise (fun a b => a.1 ≤ b.1) :=
  ⟨specs_order_independent hp hnd, sortedSpecs_perm l₁, sortedSpecs_sorted l₁⟩

/-- **Every set is declared exactly once.**  When the merge succeeds its output is the concatenation of the
    files' set names in the original order, without repetition; and pairwise distinct names always succeed. -/
theorem C14_sets_once {files : List (List String)} :
    (∀ out, mergeSets files [] = .ok out → out = files.flatten ∧ out.Nodup) ∧
    (files.flatten.Nodup → ∃ out, mergeSets files [] = .ok out) :=
  ⟨fun _ h => mergeSets_ok h, mergeSets_complete⟩

/-- **A duplicate set name is refused.**  The merge fails only with a name that occurs at least twice. -/
theorem C14_duplicate_set_refused {files : List (List String)} {n : String} (h : mergeSets files [] = .error n) :
    2 ≤ files.flatten.count n ∧ ¬ files.flatten.Nodup :=
  ⟨mergeSets_error_count h, mergeSets_error h⟩

/-- the calls of `MigrateFiles` with its last call `writer.Write` replaced by the calls of `Writer.Write` -/
def migrateCalls : List Gen.CallFact := Gen.migrateFilesCalls.dropLast ++ Gen.writerWriteCalls

/-- **Facts about the regenerated call lists.**  In `MigrateFiles` (with `Writer.Write` inlined) every call
    returns its error and `os.WriteFile` occurs once, as the very last call; the call inlined is indeed the last
    call of `MigrateFiles`; `main` is `config.Run` followed by `os.Exit`. -/
theorem C14_no_write_on_failure :
    WriteLast (Gen.migrateFilesCalls.dropLast ++ Gen.writerWriteCalls) "os.WriteFile" = true ∧
    (Gen.migrateFilesCalls.getLast?.map (·.name)) = some "writer.Write" ∧
    Gen.mainCalls.map (·.name) = ["config.Run", "os.Exit"] := ⟨by decide, rfl, rfl⟩

/-- **No write on failure.**  If any call before `os.WriteFile` fails, `os.WriteFile` is not started and the
    error is reported. -/
theorem C14_no_write_on_failure_run :
    ∀ i, i + 1 < migrateCalls.length →
      let r := runCalls migrateCalls (some i); "os.WriteFile" ∉ r.1 ∧ r.2 = true :=
  writeLast_sound C14_no_write_on_failure.1

/-! ### non-vacuity -/

/-- a history with a collision: the second `store` package gets `store_1`, the repeated path gets its old name,
    and a package that wants `store_1` gets `store_1_1` -/
example : (runImports TC.empty [(0, "store"), (1, "store"), (0, "store"), (2, "store_1")]).map (·.2) =
    some ["store", "store_1", "store", "store_1_1"] := by decide

example : (runImports TC.empty [(0, "store"), (1, "store"), (0, "store"), (2, "store_1")]).map (·.1.imports) =
    some [(2, "store_1_1"), (1, "store_1"), (0, "store")] := by decide

/-- the alias is omitted when it equals the last path element -/
example : (runImports TC.empty [(0, "store"), (1, "store")]).map (fun r => sortedSpecs (importSpecs (fun _ => "store") r.1)) =
    some [(0, none), (1, some "store_1")] := by
  rw [show runImports TC.empty [(0, "store"), (1, "store")] = some (⟨[(1, "store_1"), (0, "store")], [("store_1", 1), ("store", 0)], [("store", 1)]⟩, ["store", "store_1"]) by rfl]
  simp [sortedSpecs, importSpecs, List.mergeSort, List.MergeSort.Internal.splitInTwo]

example : sortedSpecs [(2, none), (0, some "x"), (1, none)] = [(0, some "x"), (1, none), (2, none)] := by
  simp [sortedSpecs, List.mergeSort, List.MergeSort.Internal.splitInTwo]

example : mergeSets [["A", "B"], ["C"]] [] = .ok ["A", "B", "C"] := by rfl
example : mergeSets [["A", "B"], ["C", "A"]] [] = .error "A" := by rfl

/-- the run with no failure starts `os.WriteFile`; a failure of `format.Node` (call 4) does not -/
example : runCalls migrateCalls none =
    (["packages.Load", "m.convertPackageError", "m.transformer.Transform", "m.mergeResults", "format.Node", "os.WriteFile"], false) := by decide +kernel
example : runCalls migrateCalls (some 4) =
    (["packages.Load", "m.convertPackageError", "m.transformer.Transform", "m.mergeResults", "format.Node"], true) := by decide +kernel

/-! ### the types `migrate` spells (`TypeConverter.TypeToExpr`, model in `KV/TypeConv.lean`, proofs in `KV/TypeConvProofs.lean`) -/

/-- every type `migrate` spells from type information denotes, in the written file, the type it was spelled from;
    the file's import table is injective and contains no import the spelled types do not use -/
theorem C14_types_roundtrip (c : Nat) (pname : Nat → String) (ts : List TConv.Ty) (tc' : Imp.TC) (es : List TConv.Ex)
    (hwf : TConv.WFList ts = true) (h : TConv.renderList (some c) pname Imp.TC.empty ts = some (tc', es)) :
    TConv.resolveList (some c) tc' es = some ts ∧ Imp.Inv tc' ∧
    (∀ p n, tc'.imports.lookup p = some n → n ∈ TConv.qualsList es) :=
  let ⟨hrt, _, hnew⟩ := TConv.renderList_of_no_imports rfl hwf h
  ⟨hrt, TConv.renderList_inv ts _ tc' es inv_empty h, fun p n hl => (hnew p n hl).2⟩

/-- spelling a type always produces a result (the alias search inside never runs out of fuel) -/
theorem C14_types_total (cur : Option Nat) (pname : Nat → String) (ts : List TConv.Ty) :
    TConv.renderList cur pname Imp.TC.empty ts ≠ none :=
  TConv.renderList_total cur pname _ ts

/-- two packages that both declare the name `store`, nested under `map` / `func` / a type argument: the second one is
    spelled `store_1`, and the result denotes the type it was made from -/
example : (TConv.render (some 0) (fun _ => "store") TC.empty TConv.exTy).map (fun r => (r.1.imports, TConv.exStr r.2)) =
    some ([(2, "store_1"), (1, "store")], "map[store.N0]func(store_1.N1[store.N0];int)") := by decide +kernel

/-- `TypeToExpr` has a case of its own for every kind of `types.Type` a value can have (regenerated from the type switch
    of typeconv.go; `Tuple`, `Union` and `TypeParam` are not types of values of a non-generic declaration): nothing falls
    through to the default branch, which spells a type with `t.String()` — full package paths (the defect repaired by
    67e0897 was two missing cases here) -/
theorem C14_type_kinds_covered :
    (["Named", "Alias", "Pointer", "Slice", "Array", "Map", "Chan", "Signature", "Struct", "Interface", "Basic"].all (fun k => Gen.typeToExprCases.contains k)) = true ∧
    Gen.typeToExprDefault = "ast.NewIdent(t.String())" := by decide +kernel

/-! ### reserved names (`NewTypeConverter` after fix 42d40f3; `KV/Reserved.lean`, proofs in `KV/ReservedProofs.lean`) -/

/-- with reserved names (the kessoku import, the package's own identifiers — fix 42d40f3): every type spelled from type
    information still denotes the type it was spelled from, no import is given a reserved name, different packages get
    different names, and no import is added that the types do not use -/
theorem C14_types_roundtrip_reserved (c : Nat) (pname : Nat → String) (reserved : List String) (ts : List TConv.Ty)
    (tc' : Imp.TC) (es : List TConv.Ex) (hwf : TConv.WFList ts = true) (hnr : TConv.noResList ts = true)
    (h : TConv.renderList (some c) pname (Imp.TC.withReserved reserved) ts = some (tc', es)) :
    TConv.resolveList (some c) tc' es = some ts ∧
    (∀ p n, tc'.imports.lookup p = some n → n ∉ reserved ∧ n ∈ TConv.qualsList es) ∧
    (∀ p q n, tc'.imports.lookup p = some n → tc'.imports.lookup q = some n → p = q) := by
  obtain ⟨hrt, hi', hnew⟩ := TConv.renderList_of_no_imports rfl hwf h
  -- a name given to a new import was not in `used`, where the reserved names are
  exact ⟨hrt, fun p n hl => ⟨fun hmem => absurd ((lookup_map_mem reserved n hmem).symm.trans (hnew p n hl).1) (nomatch ·),
    (hnew p n hl).2⟩, fun _ _ _ => hi'.injective⟩

/-- spelling a type from the table with reserved names always produces a result -/
theorem C14_types_total_reserved (cur : Option Nat) (pname : Nat → String) (reserved : List String)
    (ts : List TConv.Ty) : TConv.renderList cur pname (Imp.TC.withReserved reserved) ts ≠ none :=
  TConv.renderList_total cur pname _ ts

/-- `map[store.N0]kessoku.N1` seen from package 0, which declares an identifier `store` and imports kessoku: package 1
    (named `store`) and package 2 (named `kessoku`) -/
def resTy : TConv.Ty := .node .map [.node (.named 1 16) [], .node (.named 2 17) []]

/-- the names `kessoku` and `store` are reserved: package 1 (`store`) is imported as `store_1`, package 2 (`kessoku`)
    as `kessoku_1`; the hypotheses of `C14_types_roundtrip_reserved` hold for this type -/
example : TConv.WFList [resTy] = true ∧ TConv.noResList [resTy] = true := by decide

example : (TConv.render (some 0) (fun p => if p = 1 then "store" else "kessoku") (TC.withReserved ["kessoku", "store"])
      resTy).map (fun r => (r.1.imports, TConv.exStr r.2)) =
    some ([(2, "kessoku_1"), (1, "store_1")], "map[store_1.N0]kessoku_1.N1") := by decide +kernel

example : (TConv.render (some 0) (fun p => if p = 1 then "store" else "kessoku") (TC.withReserved ["kessoku", "store"])
      resTy).bind (fun r => TConv.resolve (some 0) r.1 r.2) = some resTy := by rfl

end C14

#print axioms C14.C14_types_roundtrip
#print axioms C14.C14_types_total
#print axioms C14.C14_types_roundtrip_reserved
#print axioms C14.C14_types_total_reserved
