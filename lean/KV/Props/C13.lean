import KV.Wire
import KV.WireProofs
/-! # C13 — migration preserves what google/wire would have built

Property statements only.  `Wire.wireEval` is a reference solver for wire provider sets written from wire's
documented resolution (injector arguments, unique provider per type, `Bind` redirects an interface to its
implementation, `Struct` provides `T` and `*T`, `FieldsOf` reads fields of `T` or `*T`); `Wire.migrate` models
`kessoku migrate` on the same abstract configuration; `Wire.kEval` is kessoku's by-type evaluation of the
migrated declaration (unsupplied types become injector parameters).  Values are Herbrand terms.  The
correspondence check compares, per seeded configuration, the model's verdict (refused / equal / different)
with real google/wire and the real `kessoku migrate` + `kessoku` executed over instrumented providers.

The full statement is **false** of the current migration; the witnesses below are the known findings. -/
namespace C13
open Wire

/-- full statement: for every configuration, whenever the migration succeeds the migrated injector computes
    what wire's injector computes -/
def C13_statement : Prop :=
  ∀ (c : Cfg) (fuel : Nat), (migrate c).isSome → V.beq (migratedEval c fuel) (wireEval c fuel c.ret) = true

/-- **Known finding: `Bind` is migrated by constructor *name*.**  `ProvideRepo(Config) *PgRepo`, an unrelated
    `NewPgRepo(string, int) *PgRepo`, `Bind(Repo, *PgRepo)`: wire calls `ProvideRepo`, the migrated injector calls
    `NewPgRepo`. -/
theorem C13_neg_bind_by_name : ¬ C13_statement := by
  intro h
  have h1 : V.beq (migratedEval cfgBindByName 8) (wireEval cfgBindByName 8 (.ptr 2)) = true := h cfgBindByName 8 (by decide)
  rw [c13_bind_by_name_differs] at h1
  cases h1

/-- **Known finding: the value form of `wire.Struct` is lost** (only `*T` is provided after migration; a consumer of
    the value `T` silently becomes an extra injector parameter). -/
theorem C13_neg_struct_value :
    V.beq (wireEval cfgStructValue 8 (.ptr 1)) (.call newSvcName [.call (mkName 0) [.arg (.basic 0)]]) = true ∧
    V.beq (migratedEval cfgStructValue 8) (.call newSvcName [.arg (.val 0)]) = true :=
  c13_struct_value_differs

/-- a faithful configuration on which both agree (non-vacuity of the comparison): `NewT1() *T1`, `Bind(I0, *T1)`,
    `NewT2(I0) *T2` -/
def cfgFaithful : Cfg :=
  let newT1 : Func := { name := ctorName 1, params := [], result := .ptr 1 }
  let newT2 : Func := { name := ctorName 2, params := [.iface 0], result := .ptr 2 }
  { items := [.func newT1, .bind 0 (.ptr 1), .func newT2], args := [], ret := .ptr 2, pkgFuncs := [newT1, newT2] }

theorem C13_faithful_example :
    (migrate cfgFaithful).isSome = true ∧ V.beq (migratedEval cfgFaithful 8) (wireEval cfgFaithful 8 (.ptr 2)) = true := by
  decide

/-! ## C13_partial — the migration is faithful on the decidable subset `Wire.faithful`

What `Wire.faithful c` demands is said in its docstring (`KV/Wire.lean`).  `migratedEval` is `⊥` when `kessoku migrate`
refuses **or** kessoku refuses the migrated declaration as ambiguous (`migrateChecked`). -/

/-- **C13 on the faithful subset.**  The migration does not refuse, and for every fuel at which wire's own injector is
    a complete term (`NoBot`: the fuel sufficed; `NoMissing`: wire resolved every type) the migrated injector computes
    exactly the same term.  (`C13_statement` restricted to `faithful`, with `=` instead of `V.beq`, under the
    "wire's term is complete" premise that the fuel asymmetry requires.) -/
theorem C13_partial (c : Cfg) (h : faithful c = true) :
    (migrate c).isSome ∧
    ∀ fuel, NoBot (wireEval c fuel c.ret) → NoMissing (wireEval c fuel c.ret) →
      migratedEval c fuel = wireEval c fuel c.ret :=
  migratedEval_faithful c h

/-- "not refused" in the driver's sense (`W migrate=ok`): on the faithful subset `kessoku migrate` produces a declaration
    and kessoku does not refuse it as ambiguous ("multiple providers provide T") -/
theorem C13_partial_not_refused (c : Cfg) (h : faithful c = true) :
    ∃ ks, migrate c = some ks ∧ kAmbiguous ks = false ∧ migrateChecked c = some ks := by
  obtain ⟨ks, hm⟩ := Option.isSome_iff_exists.1 (migrate_faithful_some c h)
  have ha := migrate_not_ambiguous c h ks hm
  exact ⟨ks, hm, ha, migrateChecked_of_migrate hm ha⟩

/-- the same in the literal shape of `C13_statement` (`V.beq … = true`) -/
theorem C13_partial_beq (c : Cfg) (h : faithful c = true) (fuel : Nat)
    (hb : NoBot (wireEval c fuel c.ret)) (hmi : NoMissing (wireEval c fuel c.ret)) :
    V.beq (migratedEval c fuel) (wireEval c fuel c.ret) = true := by
  rw [(C13_partial c h).2 fuel hb hmi]; exact V.beq_refl _

/-- every requested type, not only the injector's result — **provided `t` is not the value form of a listed struct** -/
theorem C13_partial_all_types (c : Cfg) (h : faithful c = true) (ks : List KItem) (hm : migrate c = some ks) :
    ∀ fuel t, structVal c t = false → NoBot (wireEval c fuel t) → NoMissing (wireEval c fuel t) →
      kEval ks fuel t = wireEval c fuel t :=
  migrate_faithful c h ks hm

/-- A larger faithful configuration using every construct.  Injector argument `dsn : b0`;
    `wire.Struct(new(T0), "*")` (`Config{dsn}`) consumed as `*T0`; `wire.FieldsOf(new(*T0), "Host", "Port")` giving `b1`, `b2`;
    `NewT1(b1, b2) *T1`; `wire.Bind(new(I0), new(*T1))`; `NewLogger() *T3` (no dependencies);
    `NewT2(I0, *T3, *T0) *T2`; an unrelated package function that is not in the set. -/
def cfgBig : Cfg :=
  let newT1 : Func := { name := ctorName 1, params := [.basic 1, .basic 2], result := .ptr 1 }
  let newLogger : Func := { name := 5, params := [], result := .ptr 3 }
  let newT2 : Func := { name := ctorName 2, params := [.iface 0, .ptr 3, .ptr 0], result := .ptr 2 }
  let helper : Func := { name := 6, params := [.basic 0], result := .ptr 1 }
  { items := [.structP 0 [.basic 0], .fieldsOf 0 true [.basic 1, .basic 2], .func newT1, .bind 0 (.ptr 1),
              .func newLogger, .func newT2],
    args := [.basic 0], ret := .ptr 2, pkgFuncs := [helper, newT1, newLogger, newT2] }

theorem C13_faithful_nonvacuous : faithful cfgFaithful = true ∧ faithful cfgBig = true := by decide +kernel

/-- wire resolves both examples completely at fuel 8, so `C13_partial` applies to them non-vacuously -/
theorem C13_examples_resolved :
    NoBot (wireEval cfgFaithful 8 cfgFaithful.ret) ∧ NoMissing (wireEval cfgFaithful 8 cfgFaithful.ret) ∧
    NoBot (wireEval cfgBig 8 cfgBig.ret) ∧ NoMissing (wireEval cfgBig 8 cfgBig.ret) := by decide

/-- what wire builds for `cfgBig`:
    `NewT2(NewT1((&Config{dsn}).Host, (&Config{dsn}).Port), NewLogger(), &Config{dsn})` -/
theorem C13_big_value :
    V.beq (wireEval cfgBig 8 cfgBig.ret)
      (.call (ctorName 2)
        [.call (ctorName 1) [.call fieldName [.call (mkPtrName 0) [.arg (.basic 0)]],
                             .call fieldName [.call (mkPtrName 0) [.arg (.basic 0)]]],
         .call 5 [],
         .call (mkPtrName 0) [.arg (.basic 0)]]) = true := by decide

/-- `C13_partial` applied (not re-evaluated): the migrated `cfgBig` computes wire's term -/
theorem C13_big_agrees : migratedEval cfgBig 8 = wireEval cfgBig 8 cfgBig.ret :=
  (C13_partial cfgBig C13_faithful_nonvacuous.2).2 8 C13_examples_resolved.2.2.1 C13_examples_resolved.2.2.2

theorem C13_witnesses_not_faithful : faithful cfgBindByName = false ∧ faithful cfgStructValue = false := by decide

/-! ### necessity of the side conditions -/

/-- **Finding: the "for every requested type `t`" form needs `t` not to be a struct's value form.**  This configuration is
    faithful (`*T0` is requested, nobody consumes `T0`), yet asking the two solvers for `T0` itself differs: wire builds
    `Config{dsn}`, the migrated declaration has no supplier of `T0` and turns it into an injector parameter. -/
def cfgValRequest : Cfg :=
  { items := [.structP 0 [.basic 0]], args := [.basic 0], ret := .ptr 0, pkgFuncs := [] }

theorem C13_val_request_differs :
    faithful cfgValRequest = true ∧
    NoBot (wireEval cfgValRequest 8 (.val 0)) ∧ NoMissing (wireEval cfgValRequest 8 (.val 0)) ∧
    V.beq (wireEval cfgValRequest 8 (.val 0)) (.call (mkName 0) [.arg (.basic 0)]) = true ∧
    (∀ ks, migrate cfgValRequest = some ks → V.beq (kEval ks 8 (.val 0)) (.arg (.val 0)) = true) := by
  refine ⟨by decide, by decide, by decide, by decide, ?_⟩
  intro ks h
  have h' : (migrate cfgValRequest).map (fun ks => V.beq (kEval ks 8 (.val 0)) (.arg (.val 0))) = some true := by decide
  rw [h] at h'; exact Option.some.inj h'

/-- condition 3 is necessary: an injector argument that a listed provider also supplies — wire takes the argument,
    the migrated injector calls the provider -/
def cfgArgShadow : Cfg :=
  let mk : Func := { name := 7, params := [], result := .ptr 1 }
  { items := [.func mk], args := [.ptr 1], ret := .ptr 1, pkgFuncs := [mk] }

theorem C13_arg_shadow_differs :
    faithful cfgArgShadow = false ∧ (migrate cfgArgShadow).isSome = true ∧
    V.beq (wireEval cfgArgShadow 8 (.ptr 1)) (.arg (.ptr 1)) = true ∧
    V.beq (migratedEval cfgArgShadow 8) (.call 7 []) = true := by decide

/-- the pointer-form restriction on `FieldsOf` is necessary: `wire.FieldsOf(new(T0), …)` reads the fields of the *value*
    `T0{…}`, the migrated provider reads them from `&T0{…}` -/
def cfgFieldsValue : Cfg :=
  { items := [.structP 0 [.basic 0], .fieldsOf 0 false [.basic 1]], args := [.basic 0], ret := .basic 1, pkgFuncs := [] }

theorem C13_fields_value_differs :
    faithful cfgFieldsValue = false ∧ (migrate cfgFieldsValue).isSome = true ∧
    V.beq (wireEval cfgFieldsValue 8 (.basic 1)) (.call fieldName [.call (mkName 0) [.arg (.basic 0)]]) = true ∧
    V.beq (migratedEval cfgFieldsValue 8) (.call fieldName [.call (mkPtrName 0) [.arg (.basic 0)]]) = true := by decide

/-! ### bound types are collected per element list -/

/-- **Known finding: a `Bind` written apart from its provider.**
    `wire.Build(wire.NewSet(NewT1), wire.Bind(new(I0), new(*T1)), NewApp)`: `NewT1` sits in an inner set (element list 1), the
    `Bind` and `NewApp` in the `Build` list (element list 0).  `transformElements` collects the bound types from the direct
    elements of the list it is transforming, so `NewT1` is **not** dropped from the inner list, and the `Bind` still becomes
    `Bind[I0](Provide(NewT1))`: two suppliers of `*T1`, kessoku refuses ("multiple providers provide *T1"). -/
def cfgBindApart : Cfg :=
  let newT : Func := { name := ctorName 1, params := [], result := .ptr 1 }
  let newApp : Func := { name := newAppName, params := [.iface 0], result := .ptr 2 }
  { items := [.func newT, .bind 0 (.ptr 1), .func newApp], args := [], ret := .ptr 2, pkgFuncs := [newT, newApp],
    parts := [1, 0, 0] }

theorem C13_neg_bind_apart :
    NoBot (wireEval cfgBindApart 8 cfgBindApart.ret) ∧ NoMissing (wireEval cfgBindApart 8 cfgBindApart.ret) ∧
    V.beq (wireEval cfgBindApart 8 cfgBindApart.ret) (.call newAppName [.call (ctorName 1) []]) = true ∧
    (migrate cfgBindApart).isSome = true ∧
    (∀ ks, migrate cfgBindApart = some ks → kAmbiguous ks = true) ∧
    (migrateChecked cfgBindApart).isSome = false ∧
    faithful cfgBindApart = false := by
  refine ⟨by decide, by decide, by decide, by decide, ?_, by decide, by decide⟩
  intro ks h
  have h' : (migrate cfgBindApart).map kAmbiguous = some true := by decide
  rw [h] at h'; simpa using h'

/-- what the migration emits for `cfgBindApart`: `Provide(NewT1)`, `Bind[I0](Provide(NewT1))`, `Provide(NewApp)` -/
theorem C13_bind_apart_migrated :
    migrate cfgBindApart =
      some [.provide { name := ctorName 1, params := [], result := .ptr 1 },
            .bindProvide [0] { name := ctorName 1, params := [], result := .ptr 1 },
            .provide { name := newAppName, params := [.iface 0], result := .ptr 2 }] := by decide

/-- the finding refutes the full statement as well: the migration "succeeds" and the migrated declaration is refused -/
theorem C13_neg_bind_apart_statement : ¬ C13_statement :=
  fun h => absurd (h cfgBindApart 8 (by decide)) (by decide)

/-- the same items written in **one** element list (`parts := []`): faithful, and the two agree — conjunct 5 of
    `faithful` (`bindTogether`) is not vacuous and excludes exactly the placement -/
def cfgBindTogether : Cfg := { cfgBindApart with parts := [] }

theorem C13_bind_together_agrees :
    faithful cfgBindTogether = true ∧
    NoBot (wireEval cfgBindTogether 8 cfgBindTogether.ret) ∧ NoMissing (wireEval cfgBindTogether 8 cfgBindTogether.ret) ∧
    (migrateChecked cfgBindTogether).isSome = true ∧
    V.beq (migratedEval cfgBindTogether 8) (wireEval cfgBindTogether 8 cfgBindTogether.ret) = true ∧
    V.beq (migratedEval cfgBindTogether 8) (.call newAppName [.call (ctorName 1) []]) = true := by decide

/-- it is the placement alone that `bindTogether` rejects: the other conjuncts hold of `cfgBindApart` -/
theorem C13_bind_apart_only_placement :
    bindTogether cfgBindApart = false ∧ listedOnce cfgBindApart = true ∧
    -- `NewT1` and the `Bind` together in the inner set, `NewApp` in the `Build` list: faithful
    faithful { cfgBindApart with parts := [1, 1, 0] } = true ∧
    -- the `Bind` alone in the inner set: not faithful
    faithful { cfgBindApart with parts := [0, 1, 0] } = false := by decide

/-- **One implementation bound to two interfaces in one element list (repaired).**  `NewT1() *T1`, `Bind(I0, *T1)`,
    `Bind(I1, *T1)`, `NewApp(I0, I1) *T2` in one element list.  The migration used to emit `Bind[I0](Provide(NewT1))` and
    `Bind[I1](Provide(NewT1))`, both supplying `*T1`, which kessoku refuses (`NewGraph`: "multiple providers provide"; found
    from this model and confirmed on the real tools).  The repaired migration emits nothing at the second `Bind` and wraps the
    first item: `Bind[I1](Bind[I0](Provide(NewT1)))` — one item supplying `*T1`, `I0`, `I1`. -/
def cfgBindTwice : Cfg :=
  let newT : Func := { name := ctorName 1, params := [], result := .ptr 1 }
  let newApp : Func := { name := newAppName, params := [.iface 0, .iface 1], result := .ptr 2 }
  { items := [.func newT, .bind 0 (.ptr 1), .bind 1 (.ptr 1), .func newApp], args := [], ret := .ptr 2,
    pkgFuncs := [newT, newApp] }

/-- what the migration emits for `cfgBindTwice`: `Bind[I1](Bind[I0](Provide(NewT1)))`, `Provide(NewApp)` -/
theorem C13_bind_twice_migrated :
    migrate cfgBindTwice =
      some [.bindProvide [0, 1] { name := ctorName 1, params := [], result := .ptr 1 },
            .provide { name := newAppName, params := [.iface 0, .iface 1], result := .ptr 2 }] := by decide

/-- `cfgBindTwice` is faithful, not refused, and the migrated injector computes wire's term -/
theorem C13_bind_twice_agrees :
    faithful cfgBindTwice = true ∧
    NoBot (wireEval cfgBindTwice 8 cfgBindTwice.ret) ∧ NoMissing (wireEval cfgBindTwice 8 cfgBindTwice.ret) ∧
    V.beq (wireEval cfgBindTwice 8 cfgBindTwice.ret) (.call newAppName [.call (ctorName 1) [], .call (ctorName 1) []]) = true ∧
    (migrate cfgBindTwice).map kAmbiguous = some false ∧
    (migrateChecked cfgBindTwice).isSome = true ∧
    V.beq (migratedEval cfgBindTwice 8) (wireEval cfgBindTwice 8 cfgBindTwice.ret) = true := by decide

/-- `C13_partial` applied (not re-evaluated) to `cfgBindTwice` -/
theorem C13_bind_twice_agrees_partial : migratedEval cfgBindTwice 8 = wireEval cfgBindTwice 8 cfgBindTwice.ret :=
  (C13_partial cfgBindTwice C13_bind_twice_agrees.1).2 8 C13_bind_twice_agrees.2.1 C13_bind_twice_agrees.2.2.1

/-- **The ambiguity remains across element lists.**  The same items with the second `Bind` in another element list
    (`NewT1`, `Bind(I0, *T1)`, `NewApp` in list 0, `Bind(I1, *T1)` in list 1): the nesting is per element list, so the two
    `Bind`s become `Bind[I0](Provide(NewT1))` and `Bind[I1](Provide(NewT1))`, both supplying `*T1`; kessoku refuses.
    `faithful` excludes it through `bindTogether` (the second `Bind` is not in the element list of `NewT1`). -/
def cfgBindTwiceApart : Cfg := { cfgBindTwice with parts := [0, 0, 1, 0] }

theorem C13_bind_twice_apart_migrated :
    migrate cfgBindTwiceApart =
      some [.bindProvide [0] { name := ctorName 1, params := [], result := .ptr 1 },
            .bindProvide [1] { name := ctorName 1, params := [], result := .ptr 1 },
            .provide { name := newAppName, params := [.iface 0, .iface 1], result := .ptr 2 }] := by decide

theorem C13_bind_twice_apart_ambiguous :
    NoBot (wireEval cfgBindTwiceApart 8 cfgBindTwiceApart.ret) ∧ NoMissing (wireEval cfgBindTwiceApart 8 cfgBindTwiceApart.ret) ∧
    V.beq (wireEval cfgBindTwiceApart 8 cfgBindTwiceApart.ret)
      (.call newAppName [.call (ctorName 1) [], .call (ctorName 1) []]) = true ∧
    (migrate cfgBindTwiceApart).map kAmbiguous = some true ∧
    (migrateChecked cfgBindTwiceApart).isSome = false ∧
    bindTogether cfgBindTwiceApart = false ∧ listedOnce cfgBindTwiceApart = true ∧ faithful cfgBindTwiceApart = false := by decide

/-- on the faithful subset all `Bind`s on one implementation are written in one element list (so the placement of
    `cfgBindTwiceApart` is the only way two `Bind`s on one implementation can still go wrong, and `faithful` excludes it) -/
theorem C13_faithful_binds_one_list (c : Cfg) (h : faithful c = true) {i j x y : Nat} {impl : Ty}
    (hi : c.items[i]? = some (Item.bind x impl)) (hj : c.items[j]? = some (Item.bind y impl)) :
    partOf c i = partOf c j :=
  (Faithful.of_bool h).bindSameList hi hj

/-- still rejected by `listedOnce`: one interface bound twice (here to two implementations); the same item listed twice;
    a `FieldsOf` naming two fields of one type -/
theorem C13_listedOnce_rejects :
    listedOnce { cfgBindTwice with items := cfgBindTwice.items ++ [.bind 0 (.ptr 3)] } = false ∧
    listedOnce { cfgBindTwice with items := cfgBindTwice.items ++ cfgBindTwice.items.take 1 } = false ∧
    listedOnce { cfgValRequest with items := [.structP 0 [.basic 0], .fieldsOf 0 true [.basic 1, .basic 1]] } = false := by decide

end C13
