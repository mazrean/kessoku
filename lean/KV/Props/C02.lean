import KV.Eval
import KV.DataFlow
import KV.Value
import KV.CallsValue
import KV.Perm
import KV.Generated.TypeCases
/-! # C02 — injector result equals sequential evaluation of the declared graph

Property statements only.  Values are Herbrand terms (`KV.Val`): providers are uninterpreted, so "equal
result" means "the same providers applied to the same inputs".  `KV.Eval` is the reference evaluation written
from the statement (one provider at a time, arguments selected by type key through the supplier map, which
contains interface bindings, expanded struct fields and multi-value groups); `KV.NVal` is the value the planned
graph wires out of a node. -/
namespace C02
open KV

/-- **The wiring computes the reference value.**  In the graph built for any declaration, whatever value the
    wiring delivers out of the node supplying type key `t` (as result group `gi`) is the reference evaluation
    of `t`; argument nodes deliver the caller's argument of that type. -/
theorem C02_wiring_is_reference {provs : List PSpec} {sup : SupMap} (hsup : SupOK provs sup) (rp : Nat) {n gi : Nat} {v : Val}
    (hv : NVal (bfsLoop provs sup (bfsFuel provs) (bfsInit rp)).nodes (bfsLoop provs sup (bfsFuel provs) (bfsInit rp)).edges
      (reqOf provs (bfsLoop provs sup (bfsFuel provs) (bfsInit rp))) n gi v)
    (t : Nat)
    (hp : (∃ p, sup.lookup t = some (p, gi) ∧
            ((bfsLoop provs sup (bfsFuel provs) (bfsInit rp)).nodes.getD n default).isArg = false ∧
            ((bfsLoop provs sup (bfsFuel provs) (bfsInit rp)).nodes.getD n default).prov = p) ∨
          (sup.lookup t = none ∧ ((bfsLoop provs sup (bfsFuel provs) (bfsInit rp)).nodes.getD n default).isArg = true ∧
            ((bfsLoop provs sup (bfsFuel provs) (bfsInit rp)).nodes.getD n default).ty = t)) :
    Eval provs sup t v :=
  bfs_value_is_reference hsup rp hv t hp

/-- **Every emitted provider call reads values that have been written** (so the value it receives is the one
    its producer returned): re-export of C01's ordering theorem, which is what turns the static wiring into
    run-time values under every schedule. -/
theorem C02_reads_written {provs : List PSpec} {ret : Nat} {p : PlanOut} (h : plan provs ret = .ok p)
    {s : T1.Pcs} (hr : T1.Reach (emitted p) s) {t o : Nat} {args : List Nat} {v : Nat}
    (hop : T1.opAt (emitted p) t (T1.pc s t) = some (.enter o args)) (hv : v ∈ args)
    (hnp : ¬ isParamOf p.b v) : T1.written (emitted p) s v :=
  let ⟨hw, hd⟩ := plan_wf h
  T1.enter_after_writes hw hd hr hop hv hnp

/-- **Result = sequential evaluation.**  For every accepted declaration the planned graph wires exactly one value
    out of the node read by the final `return`, and that value is the (unique) reference evaluation of the
    requested type over the supplier map of the declaration. -/
theorem C02_result {provs0 : List PSpec} {ret : Nat} {p : PlanOut} {provs : List PSpec} {sup : SupMap}
    (hp : plan provs0 ret = .ok p) (hs : supplierMap provs0 = .ok (provs, sup)) :
    ∃ v, GraphVal p.g v ∧ Eval provs sup ret v ∧ (∀ v', GraphVal p.g v' → v' = v) ∧ (∀ v', Eval provs sup ret v' → v' = v) :=
  plan_value_spec hp hs

/-- **Async marking never changes the graph**: the planner builds the same nodes, edges and return slot (or fails
    with the same error) for every Async marking of the providers. -/
theorem C02_async_irrelevant (f : Nat → Bool) (provs0 : List PSpec) (ret : Nat) :
    (∃ e, newGraph2 (setAsync f provs0) ret = .error e ∧ newGraph2 provs0 ret = .error e) ∨
    (∃ g' g, newGraph2 (setAsync f provs0) ret = .ok g' ∧ newGraph2 provs0 ret = .ok g ∧
      g'.nodes = g.nodes ∧ g'.edges = g.edges ∧ g'.rev = g.rev ∧ g'.retNode = g.retNode ∧ g'.retIdx = g.retIdx ∧
      g'.provs.length = g.provs.length ∧ ∀ i, SameButAsync (g'.provs.getD i default) (g.provs.getD i default)) :=
  async_irrelevant f provs0 ret

/-- **Async marking never changes the value returned**: whatever the marking, the value wired by an accepted
    plan is the reference evaluation of the unmarked declaration. -/
theorem C02_async_value (f : Nat → Bool) {provs0 : List PSpec} {ret : Nat} {p' : PlanOut} {provs : List PSpec} {sup : SupMap}
    (hp : plan (setAsync f provs0) ret = .ok p') (hs : supplierMap provs0 = .ok (provs, sup))
    (v : Val) (hv : GraphVal p'.g v) : Eval provs sup ret v :=
  plan_value_async f hp hs v hv

/-- **Exactly once / never.**  A provider is invoked by the emitted program (some `enter` of a node of that
    provider occurs in some thread) iff it is needed for the requested type; two invocations of the same provider
    are the same node — and a node's `enter` occurs at exactly one position (`C02_enter_once`). -/
theorem C02_calls_exact {provs0 : List PSpec} {ret : Nat} {p : PlanOut} {provs : List PSpec} {sup : SupMap}
    (h : plan provs0 ret = .ok p) (hs : supplierMap provs0 = .ok (provs, sup)) :
    (∀ q, (∃ n t args, T1.Op.enter n args ∈ T1.thread (emitted p) t ∧ (p.g.nodes.getD n default).isArg = false ∧
        (p.g.nodes.getD n default).prov = q) ↔ Needed provs sup ret q) ∧
    (∀ n n' t t' args args', T1.Op.enter n args ∈ T1.thread (emitted p) t →
      T1.Op.enter n' args' ∈ T1.thread (emitted p) t' →
      (p.g.nodes.getD n default).prov = (p.g.nodes.getD n' default).prov → n = n') :=
  calls_exact h hs

theorem C02_enter_once {provs0 : List PSpec} {ret : Nat} {p : PlanOut} (h : plan provs0 ret = .ok p)
    {t j t' j' n : Nat} {a a' : List Nat}
    (h1 : T1.opAt (emitted p) t j = some (.enter n a)) (h2 : T1.opAt (emitted p) t' j' = some (.enter n a')) :
    t = t' ∧ j = j' :=
  enter_once h h1 h2

/-- **Every run executes everything.**  In a final state of any fault-free run (no thread can move) every thread
    has executed all of its operations: each emitted provider call happened exactly once. -/
theorem C02_run_complete {provs0 : List PSpec} {ret : Nat} {p : PlanOut} (h : plan provs0 ret = .ok p)
    {s : T1.Pcs} (hr : T1.Reach (emitted p) s) (hmax : ∀ t, ¬ T1.Enabled (emitted p) s t) :
    ∀ t, T1.pc s t = (T1.thread (emitted p) t).length :=
  run_calls_once h hr hmax

/-- **The value returned.**  The variable the injector returns holds (symbolically, `VarVal`: parameters hold the
    caller's arguments, a call puts `provider(inputs)` into its result variables) exactly the reference
    evaluation of the requested type, and nothing else. -/
theorem C02_returned_value {provs0 : List PSpec} {ret : Nat} {p : PlanOut} {provs : List PSpec} {sup : SupMap}
    (h : plan provs0 ret = .ok p) (hs : supplierMap provs0 = .ok (provs, sup)) :
    ∃ x, VarVal p p.b.retParam x ∧ GraphVal p.g x ∧ Eval provs sup ret x ∧ ∀ x', VarVal p p.b.retParam x' → x' = x :=
  returned_value h hs

/-! ## Reordering the providers of a declaration

Positions in the provider list change under reordering, so providers are identified by their label — `decl`, and
for the field-access providers created by a struct expansion the pair (`decl` of the struct provider, `fieldName`) —
and values are compared in label form (`KV.LVal`, `KV.label provs : Val → LVal`).  `provs0'.Perm provs0` says the
two declarations list the same providers in different orders. -/

/-- **Suppliers are order-independent.**  If both orders of a declaration have a supplier map (struct expansions
    included), then for every type key `t`: nobody supplies `t` in either, or `t` is supplied as the same result group
    by the same provider — same label, same `requires` and `provides` (indeed equal `PSpec`s) — at whatever
    positions `p'`, `p` it sits in the two expanded lists.  (Holds without assuming distinct labels.) -/
theorem C02_perm_suppliers {provs0' provs0 provs' provs : List PSpec} {sup' sup : SupMap} (hperm : provs0'.Perm provs0)
    (hs' : supplierMap provs0' = .ok (provs', sup')) (hs : supplierMap provs0 = .ok (provs, sup)) (t : Nat) :
    (sup'.lookup t = none ∧ sup.lookup t = none) ∨
    ∃ p' p gi, sup'.lookup t = some (p', gi) ∧ sup.lookup t = some (p, gi) ∧
      (provs'.getD p' default).decl = (provs.getD p default).decl ∧
      (provs'.getD p' default).fieldName = (provs.getD p default).fieldName ∧
      (provs'.getD p' default).requires = (provs.getD p default).requires ∧
      (provs'.getD p' default).provides = (provs.getD p default).provides ∧
      provs'.getD p' default = provs.getD p default := by
  rcases perm_suppliers hperm hs' hs t with h | ⟨p', p, gi, h1, h2, h3⟩
  · exact Or.inl h
  · exact Or.inr ⟨p', p, gi, h1, h2, by rw [h3], by rw [h3], by rw [h3], by rw [h3], h3⟩

/-- **Existence of the supplier map is order-independent** — stated for declarations with pairwise distinct labels;
    the hypothesis is not used (`KV.perm_supplierMap_isOk`).  Struct expansion iterates to a fixpoint, so the order of
    the struct expansions plays no role.  The error reported on failure may differ between the orders. -/
theorem C02_perm_supplierMap_ok {provs0' provs0 : List PSpec} (hperm : provs0'.Perm provs0)
    (hnd : (provs0.map (·.decl)).Nodup) :
    (∃ r', supplierMap provs0' = .ok r') ↔ (∃ r, supplierMap provs0 = .ok r) :=
  perm_supplierMap_ok hperm hnd

/-- One direction of it: if one order has a supplier map, every other order has one — no order is refused with the
    `orphan` of a struct expansion whose struct type is only a field of a struct listed later. -/
theorem C02_perm_supplierMap_ok_or_orphan {provs0' provs0 provs : List PSpec} {sup : SupMap}
    (hperm : provs0'.Perm provs0) (hnd : (provs0.map (·.decl)).Nodup) (hs : supplierMap provs0 = .ok (provs, sup)) :
    ∃ r', supplierMap provs0' = .ok r' :=
  perm_supplierMap_ok_or_orphan hperm hnd hs

/-- **When the supplier map exists**, position-free: iff no type key has two suppliers (`Unamb`) and every struct
    expansion is sourced — by a function provider, or recursively as a field of a sourced struct expansion. -/
theorem C02_supplierMap_ok_iff {provs0 : List PSpec} (hnd : (provs0.map (·.decl)).Nodup) :
    (∃ r, supplierMap provs0 = .ok r) ↔ (Unamb provs0 ∧ StructsSourced provs0) :=
  supplierMap_ok_iff hnd

/-- **The value is order-independent.**  For every type key, the reference evaluations over the supplier maps of two
    orders of the same declaration (struct expansions included) are the same label-based value. -/
theorem C02_perm_value {provs0' provs0 provs' provs : List PSpec} {sup' sup : SupMap} (hperm : provs0'.Perm provs0)
    (hs' : supplierMap provs0' = .ok (provs', sup')) (hs : supplierMap provs0 = .ok (provs, sup))
    {t : Nat} {v' v : Val} (he' : Eval provs' sup' t v') (he : Eval provs sup t v) :
    label provs' v' = label provs v :=
  perm_value hperm hs' hs he' he

/-- **Both plans return the same value.**  If both orders are accepted, the variable returned by each emitted
    injector holds exactly one symbolic value (it is the value the graph wires out of the return node), and the two
    are the same label-based value. -/
theorem C02_perm_returned_value {provs0' provs0 : List PSpec} {ret : Nat} {p' p : PlanOut} (hperm : provs0'.Perm provs0)
    (hp' : plan provs0' ret = .ok p') (hp : plan provs0 ret = .ok p) :
    ∃ x' x, VarVal p' p'.b.retParam x' ∧ (∀ y, VarVal p' p'.b.retParam y → y = x') ∧ GraphVal p'.g x' ∧
      VarVal p p.b.retParam x ∧ (∀ y, VarVal p p.b.retParam y → y = x) ∧ GraphVal p.g x ∧
      label p'.g.provs x' = label p.g.provs x :=
  perm_returned_value hperm hp' hp

/-- **Acceptance is order-independent** — stated for declarations with pairwise distinct labels (nested struct
    expansions included); the hypothesis is not used (`KV.perm_accept'`). -/
theorem C02_perm_accept {provs0' provs0 : List PSpec} (ret : Nat) (hperm : provs0'.Perm provs0)
    (hnd : (provs0.map (·.decl)).Nodup) :
    (∃ p', plan provs0' ret = .ok p') ↔ (∃ p, plan provs0 ret = .ok p) :=
  perm_accept ret hperm hnd

/-- … and, whenever both orders have a supplier map, without assuming distinct labels. -/
theorem C02_perm_accept_of_suppliers {provs0' provs0 provs' provs : List PSpec} {sup' sup : SupMap} (ret : Nat)
    (hperm : provs0'.Perm provs0)
    (hs' : supplierMap provs0' = .ok (provs', sup')) (hs : supplierMap provs0 = .ok (provs, sup)) :
    (∃ p', plan provs0' ret = .ok p') ↔ (∃ p, plan provs0 ret = .ok p) :=
  perm_accept_of_ok ret hperm hs' hs

/-- special case (the hypothesis `_hk` is not used): declarations without struct expansion -/
theorem C02_perm_accept_nostruct {provs0' provs0 : List PSpec} (ret : Nat) (hperm : provs0'.Perm provs0)
    (hnd : (provs0.map (·.decl)).Nodup) (_hk : ∀ q ∈ provs0, q.kind = 0) :
    (∃ p', plan provs0' ret = .ok p') ↔ (∃ p, plan provs0 ret = .ok p) :=
  perm_accept ret hperm hnd

/-- special case (the hypothesis `_hsrc` is not used): every expanded struct is returned (or bound) by a function
    provider -/
theorem C02_perm_accept_fnSourced {provs0' provs0 : List PSpec} (ret : Nat) (hperm : provs0'.Perm provs0)
    (hnd : (provs0.map (·.decl)).Nodup) (_hsrc : FnSourced provs0) :
    (∃ p', plan provs0' ret = .ok p') ↔ (∃ p, plan provs0 ret = .ok p) :=
  perm_accept ret hperm hnd

/-- **Nested struct expansions are accepted in both orders** (finding `struct-order-orphan`, repaired): with
    `Struct[8]` (field `x` of struct type 5) and `Struct[5]` (field `y` of type 6) the declaration is accepted whether
    `Struct[8]` or `Struct[5]` is listed first (before the repair the latter order was refused with `orphan 5`). -/
theorem C02_perm_accept_nested_both_orders :
    PermExamples.nestedInnerFirst.Perm PermExamples.nestedOuterFirst ∧
    (PermExamples.nestedOuterFirst.map (·.decl)).Nodup ∧
    RefuseExamples.isOk (plan PermExamples.nestedOuterFirst 6) = true ∧
    RefuseExamples.isOk (plan PermExamples.nestedInnerFirst 6) = true :=
  ⟨PermExamples.nested_perm, PermExamples.nested_distinct, PermExamples.nested_both_accepted⟩

/-- the unrestricted statements (only distinct labels assumed) hold -/
theorem C02_perm_accept_unrestricted : perm_accept_unrestricted_statement := perm_accept_unrestricted
theorem C02_perm_supplierMap_ok_unrestricted : perm_supplierMap_ok_unrestricted_statement :=
  perm_supplierMap_ok_unrestricted

/-! ### checked instance: three providers (`Nat` type keys and labels), rotated `[p0, p1, p2] ↦ [p2, p0, p1]` -/
section
open PermExamples

example : declB.Perm declA ∧ (declA.map (·.decl)).Nodup := ⟨declB_perm, declA_distinct⟩
example : supplierMap declA = .ok (declA, supA) ∧ supplierMap declB = .ok (declB, supB) := ⟨declA_sup, declB_sup⟩
/-- position-based reference values of type 1 differ, label-based ones coincide -/
example : Eval declA supA 1 valA ∧ Eval declB supB 1 valB ∧ valB ≠ valA :=
  ⟨valA_eval, valB_eval, by intro h; cases h⟩
example : label declB valB = label declA valA := by rfl
example : label declB valB = label declA valA := C02_perm_value declB_perm declB_sup declA_sup valB_eval valA_eval
example : RefuseExamples.isOk (plan declB 1) = true ∧ RefuseExamples.isOk (plan declA 1) = true := declAB_accepted
example : (∃ p', plan declB 1 = .ok p') ↔ (∃ p, plan declA 1 = .ok p) :=
  C02_perm_accept_nostruct 1 declB_perm declA_distinct (by decide)
/-- the nested-struct example, by evaluation: both orders accepted -/
example : RefuseExamples.isOk (plan nestedOuterFirst 6) = true ∧
    RefuseExamples.isOk (plan nestedInnerFirst 6) = true := PermExamples.nested_both_accepted
end

/-- the planner finds the supplier of a type by type identity: no table of `NewGraph` is keyed by the spelling of a
    type (`map[string]…` filled through `t.String()`), the supplier and argument tables are `typeutil.Map`s
    (regenerated from graph.go; before fix 5cbfa32 both were keyed by spelling, so `byte` did not supply `uint8`).
    The model's type identity is equality of type ids; this fact is what lets ids stand for Go types. -/
theorem C02_suppliers_by_identity :
    Gen.newGraphTablesKeyedBySpelling = [] ∧
    (["argNodeMap", "fnProviderMap"].all (fun k => Gen.newGraphTablesKeyedByIdentity.contains k)) = true := by decide

end C02

#print axioms C02.C02_perm_suppliers
#print axioms C02.C02_perm_supplierMap_ok
#print axioms C02.C02_perm_supplierMap_ok_or_orphan
#print axioms C02.C02_perm_value
#print axioms C02.C02_perm_returned_value
#print axioms C02.C02_perm_accept
#print axioms C02.C02_perm_accept_of_suppliers
#print axioms C02.C02_perm_accept_nested_both_orders
#print axioms C02.C02_supplierMap_ok_iff
#print axioms C02.C02_perm_accept_unrestricted
