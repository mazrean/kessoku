import KV.TypeConv
import KV.ImportsProofs
/-! # Proofs about the `TypeToExpr` model (`KV/TypeConv.lean`)

`render` is total, keeps the import tables inverse to each other, only ever adds entries, and — for the types of `WF` —
the expression it produces denotes, in the file it is written to, the type it was made from.  Every import it adds is
mentioned by the expression. -/
namespace TConv
open Imp

/-! ### one node -/

def tagWF : Tag → Bool
  | .basic n => decide (n < 16)
  | .named _ name => decide (16 ≤ name)
  | .ifaceLit => false
  | _ => true

theorem WF_node (tag : Tag) (kids : List Ty) : WF (.node tag kids) = (tagWF tag && WFList kids) := by
  rfl

theorem renderTag_spec (cur : Option Nat) (pname : Nat → String) (tc : TC) (tag : Tag) :
    (∃ etag, renderTag cur pname tc tag = some (tc, etag) ∧ (∀ q n, etag ≠ .sel q n) ∧
      ∀ c tc2, cur = some c → tagWF tag = true → resolveTag cur tc2 etag = some tag) ∨
    (∃ p name c, tag = .named p name ∧ cur = some c ∧ p ≠ c ∧
      renderTag cur pname tc tag = (addImport tc p (pname p)).map fun r => (r.1, .sel r.2 name)) := by
  cases tag with
  | named p name =>
    rcases cur with _ | c
    · exact Or.inl ⟨.ident name, rfl, fun _ _ h => ETag.noConfusion h, fun _ _ h => nomatch h⟩
    · by_cases hpc : p = c
      · refine Or.inl ⟨.ident name, if_pos hpc, fun _ _ h => ETag.noConfusion h, fun c' tc2 hc hwf => ?_⟩
        cases hc
        rw [hpc]; exact if_neg (Nat.not_lt.2 (of_decide_eq_true hwf))
      · refine Or.inr ⟨p, name, c, rfl, rfl, hpc, (if_neg hpc).trans ?_⟩
        rcases addImport tc p (pname p) with _ | ⟨tc', q⟩ <;> rfl
  | basic n => exact Or.inl ⟨_, rfl, fun _ _ h => ETag.noConfusion h, fun _ _ _ hwf => if_pos (of_decide_eq_true hwf)⟩
  | ifaceLit => exact Or.inl ⟨_, rfl, fun _ _ h => ETag.noConfusion h, fun _ _ _ hwf => Bool.noConfusion hwf⟩
  | _ => exact Or.inl ⟨_, rfl, fun _ _ h => ETag.noConfusion h, fun _ _ _ _ => rfl⟩

theorem renderTag_total (cur : Option Nat) (pname : Nat → String) (tc : TC) (tag : Tag) :
    renderTag cur pname tc tag ≠ none := by
  rcases renderTag_spec cur pname tc tag with ⟨etag, h, _⟩ | ⟨p, name, c, _, _, _, h⟩ <;> rw [h]
  · exact Option.some_ne_none _
  · rw [Ne, Option.map_eq_none_iff]; exact addImport_total tc p (pname p)

theorem renderTag_cases {cur : Option Nat} {pname : Nat → String} {tc tc1 : TC} {tag : Tag} {etag : ETag}
    (h : renderTag cur pname tc tag = some (tc1, etag)) :
    (tc1 = tc ∧ ∀ q n, etag ≠ .sel q n) ∨
    (∃ p name c q, tag = .named p name ∧ cur = some c ∧ p ≠ c ∧
      addImport tc p (pname p) = some (tc1, q) ∧ etag = .sel q name) := by
  rcases renderTag_spec cur pname tc tag with ⟨etag', he, hns, _⟩ | ⟨p, name, c, ht, hc, hpc, he⟩ <;> rw [he] at h
  · cases h; exact Or.inl ⟨rfl, hns⟩
  · obtain ⟨⟨tc', q⟩, ha, h⟩ := Option.map_eq_some_iff.1 h
    cases h; exact Or.inr ⟨p, name, c, q, ht, hc, hpc, ha, rfl⟩

theorem renderTag_roundtrip {c : Nat} {pname : Nat → String} {tc tc1 tc2 : TC} {tag : Tag} {etag : ETag}
    (hwf : tagWF tag = true) (h : renderTag (some c) pname tc tag = some (tc1, etag))
    (h2 : ∀ p n, tc1.imports.lookup p = some n → tc2.used.lookup n = some p) :
    resolveTag (some c) tc2 etag = some tag := by
  rcases renderTag_spec (some c) pname tc tag with ⟨etag', he, _, hrt⟩ | ⟨p, name, c', rfl, _, _, he⟩ <;> rw [he] at h
  · cases h; exact hrt c tc2 rfl hwf
  · obtain ⟨⟨tc', q⟩, ha, h⟩ := Option.map_eq_some_iff.1 h
    cases h
    simp only [resolveTag, h2 _ _ (addImport_lookup ha), Option.map_some]

theorem resolveTag_mono {cur : Option Nat} {tc tc'' : TC} {etag : ETag} {tag : Tag}
    (hm : ∀ q p, tc.used.lookup q = some p → tc''.used.lookup q = some p)
    (h : resolveTag cur tc etag = some tag) : resolveTag cur tc'' etag = some tag := by
  cases etag with
  | sel q name =>
    obtain ⟨p, hq, h⟩ := Option.map_eq_some_iff.1 h
    exact Option.map_eq_some_iff.2 ⟨p, hm q p hq, h⟩
  | _ => exact h

/-! ### the recursive definitions, one equation each -/

theorem render_node (cur : Option Nat) (pname : Nat → String) (tc : TC) (tag : Tag) (kids : List Ty) :
    render cur pname tc (.node tag kids) =
      (renderTag cur pname tc tag).bind fun r => (renderList cur pname r.1 kids).map fun s => (s.1, .node r.2 s.2) := by
  rw [render]
  rcases renderTag cur pname tc tag with _ | ⟨tc1, etag⟩
  · rfl
  · dsimp only [Option.bind_some]; cases renderList cur pname tc1 kids <;> rfl

theorem renderList_cons (cur : Option Nat) (pname : Nat → String) (tc : TC) (t : Ty) (ts : List Ty) :
    renderList cur pname tc (t :: ts) =
      (render cur pname tc t).bind fun r => (renderList cur pname r.1 ts).map fun s => (s.1, r.2 :: s.2) := by
  rw [renderList]
  rcases render cur pname tc t with _ | ⟨tc1, e⟩
  · rfl
  · dsimp only [Option.bind_some]; cases renderList cur pname tc1 ts <;> rfl

theorem resolve_node (cur : Option Nat) (tc : TC) (etag : ETag) (es : List Ex) :
    resolve cur tc (.node etag es) = (resolveTag cur tc etag).bind fun tag => (resolveList cur tc es).map (.node tag) := by
  rw [resolve]
  cases resolveTag cur tc etag <;> cases resolveList cur tc es <;> rfl

theorem resolveList_cons (cur : Option Nat) (tc : TC) (e : Ex) (es : List Ex) :
    resolveList cur tc (e :: es) = (resolve cur tc e).bind fun t => (resolveList cur tc es).map (t :: ·) := by
  rw [resolveList]
  cases resolve cur tc e <;> cases resolveList cur tc es <;> rfl

theorem mem_quals_node {q : String} {etag : ETag} {es : List Ex} :
    q ∈ quals (.node etag es) ↔ (∃ name, etag = .sel q name) ∨ q ∈ qualsList es := by
  by_cases h : ∃ q' name, etag = .sel q' name
  · obtain ⟨q', name, rfl⟩ := h
    rw [quals, List.mem_cons]
    exact or_congr_left ⟨fun e => ⟨name, e ▸ rfl⟩, fun ⟨_, e⟩ => by cases e; rfl⟩
  · rw [quals]
    · exact ⟨Or.inr, fun h' => h'.resolve_left fun ⟨name, e⟩ => h ⟨q, name, e⟩⟩
    · exact fun q' name e => h ⟨q', name, e⟩

/-! ### induction over a successful run of `render`

Every statement below about a run `render cur pname tc t = some (tc', e)` is proved through this principle. -/

theorem render_induct {cur : Option Nat} {pname : Nat → String}
    {P : Ty → TC → TC → Ex → Prop} {Q : List Ty → TC → TC → List Ex → Prop}
    (node : ∀ {tag kids tc tc1 tc' etag es}, renderTag cur pname tc tag = some (tc1, etag) →
      renderList cur pname tc1 kids = some (tc', es) → Q kids tc1 tc' es → P (.node tag kids) tc tc' (.node etag es))
    (nil : ∀ tc, Q [] tc tc [])
    (cons : ∀ {t ts tc tc1 tc' e es}, render cur pname tc t = some (tc1, e) →
      renderList cur pname tc1 ts = some (tc', es) → P t tc tc1 e → Q ts tc1 tc' es → Q (t :: ts) tc tc' (e :: es)) :
    (∀ t tc tc' e, render cur pname tc t = some (tc', e) → P t tc tc' e) ∧
    (∀ ts tc tc' es, renderList cur pname tc ts = some (tc', es) → Q ts tc tc' es) := by
  let M1 (t : Ty) : Prop := ∀ tc tc' e, render cur pname tc t = some (tc', e) → P t tc tc' e
  let M2 (ts : List Ty) : Prop := ∀ tc tc' es, renderList cur pname tc ts = some (tc', es) → Q ts tc tc' es
  have hnode : ∀ tag kids, M2 kids → M1 (.node tag kids) := by
    intro tag kids ih tc tc' e h
    rw [render_node] at h
    obtain ⟨⟨tc1, etag⟩, h1, h⟩ := Option.bind_eq_some_iff.1 h
    obtain ⟨⟨tc2, es⟩, h2, h⟩ := Option.map_eq_some_iff.1 h
    cases h
    exact node h1 h2 (ih _ _ _ h2)
  have hnil : M2 [] := by
    intro tc tc' es h
    rw [renderList] at h
    cases h
    exact nil _
  have hcons : ∀ t ts, M1 t → M2 ts → M2 (t :: ts) := by
    intro t ts ih1 ih2 tc tc' es h
    rw [renderList_cons] at h
    obtain ⟨⟨tc1, e⟩, h1, h⟩ := Option.bind_eq_some_iff.1 h
    obtain ⟨⟨tc2, es'⟩, h2, h⟩ := Option.map_eq_some_iff.1 h
    cases h
    exact cons h1 h2 (ih1 _ _ _ h1) (ih2 _ _ _ h2)
  exact ⟨fun t => Ty.rec (motive_1 := M1) (motive_2 := M2) hnode hnil hcons t,
    fun ts => Ty.rec_1 (motive_1 := M1) (motive_2 := M2) hnode hnil hcons ts⟩

theorem render_rel {cur : Option Nat} {pname : Nat → String} {R : TC → TC → Prop}
    (refl : ∀ a, R a a) (trans : ∀ {a b c}, R a b → R b c → R a c)
    (step : ∀ {tc tc' p d n}, addImport tc p d = some (tc', n) → R tc tc') :
    (∀ t tc tc' e, render cur pname tc t = some (tc', e) → R tc tc') ∧
    (∀ ts tc tc' es, renderList cur pname tc ts = some (tc', es) → R tc tc') := by
  refine render_induct (P := fun _ tc tc' _ => R tc tc') (Q := fun _ tc tc' _ => R tc tc')
    (fun h1 _ ih => trans ?_ ih) refl (fun _ _ ih1 ih2 => trans ih1 ih2)
  rcases renderTag_cases h1 with ⟨rfl, _⟩ | ⟨_, _, _, _, _, _, _, ha, _⟩
  · exact refl _
  · exact step ha

/-! ### totality -/

mutual
theorem render_total (cur : Option Nat) (pname : Nat → String) :
    ∀ (tc : TC) (t : Ty), render cur pname tc t ≠ none
  | tc, .node tag kids => by
    obtain ⟨r, h1⟩ := Option.ne_none_iff_exists'.1 (renderTag_total cur pname tc tag)
    obtain ⟨s, h2⟩ := Option.ne_none_iff_exists'.1 (renderList_total cur pname r.1 kids)
    rw [render_node, h1, Option.bind_some, h2]
    exact Option.some_ne_none _
theorem renderList_total (cur : Option Nat) (pname : Nat → String) :
    ∀ (tc : TC) (ts : List Ty), renderList cur pname tc ts ≠ none
  | tc, [] => by rw [renderList]; exact Option.some_ne_none _
  | tc, t :: ts => by
    obtain ⟨r, h1⟩ := Option.ne_none_iff_exists'.1 (render_total cur pname tc t)
    obtain ⟨s, h2⟩ := Option.ne_none_iff_exists'.1 (renderList_total cur pname r.1 ts)
    rw [renderList_cons, h1, Option.bind_some, h2]
    exact Option.some_ne_none _
end

/-! ### the tables stay inverse and only grow -/

theorem render_ext_both {cur : Option Nat} {pname : Nat → String} :
    (∀ t tc tc' e, render cur pname tc t = some (tc', e) → Ext tc tc') ∧
    (∀ ts tc tc' es, renderList cur pname tc ts = some (tc', es) → Ext tc tc') :=
  render_rel Ext.refl Ext.trans addImport_ext

theorem render_inv1_both {cur : Option Nat} {pname : Nat → String} :
    (∀ t tc tc' e, render cur pname tc t = some (tc', e) → Inv1 tc → Inv1 tc') ∧
    (∀ ts tc tc' es, renderList cur pname tc ts = some (tc', es) → Inv1 tc → Inv1 tc') :=
  render_rel (R := fun a b => Inv1 a → Inv1 b) (fun _ h => h) (fun f g h => g (f h)) fun ha h => addImport_inv1 h ha

theorem render_inv_both {cur : Option Nat} {pname : Nat → String} :
    (∀ t tc tc' e, render cur pname tc t = some (tc', e) → Inv tc → Inv tc') ∧
    (∀ ts tc tc' es, renderList cur pname tc ts = some (tc', es) → Inv tc → Inv tc') :=
  render_rel (R := fun a b => Inv a → Inv b) (fun _ h => h) (fun f g h => g (f h)) fun ha h => addImport_inv h ha

theorem render_inv {cur : Option Nat} {pname : Nat → String} :
    ∀ (t : Ty) (tc tc' : TC) (e : Ex), Inv tc → render cur pname tc t = some (tc', e) → Inv tc' :=
  fun t tc tc' e hi h => render_inv_both.1 t tc tc' e h hi

theorem renderList_inv {cur : Option Nat} {pname : Nat → String} :
    ∀ (ts : List Ty) (tc tc' : TC) (es : List Ex), Inv tc → renderList cur pname tc ts = some (tc', es) → Inv tc' :=
  fun ts tc tc' es hi h => render_inv_both.2 ts tc tc' es h hi

theorem render_mono {cur : Option Nat} {pname : Nat → String} :
    ∀ (t : Ty) (tc tc' : TC) (e : Ex), render cur pname tc t = some (tc', e) →
      (∀ q p, tc.used.lookup q = some p → tc'.used.lookup q = some p) ∧
      (∀ p n, tc.imports.lookup p = some n → tc'.imports.lookup p = some n) :=
  fun t tc tc' e h => let x := render_ext_both.1 t tc tc' e h; ⟨x.used, x.imports⟩

theorem renderList_mono {cur : Option Nat} {pname : Nat → String} :
    ∀ (ts : List Ty) (tc tc' : TC) (es : List Ex), renderList cur pname tc ts = some (tc', es) →
      (∀ q p, tc.used.lookup q = some p → tc'.used.lookup q = some p) ∧
      (∀ p n, tc.imports.lookup p = some n → tc'.imports.lookup p = some n) :=
  fun ts tc tc' es h => let x := render_ext_both.2 ts tc tc' es h; ⟨x.used, x.imports⟩

/-! ### what an expression denotes does not change when the table grows -/

mutual
theorem resolve_mono {cur : Option Nat} {tc tc'' : TC}
    (hm : ∀ q p, tc.used.lookup q = some p → tc''.used.lookup q = some p) :
    ∀ (e : Ex) (t : Ty), resolve cur tc e = some t → resolve cur tc'' e = some t
  | .node etag es, t, h => by
    rw [resolve_node] at h ⊢
    obtain ⟨tag, h1, h⟩ := Option.bind_eq_some_iff.1 h
    obtain ⟨ts, h2, h⟩ := Option.map_eq_some_iff.1 h
    rw [resolveTag_mono hm h1, Option.bind_some, resolveList_mono hm es ts h2]
    exact h ▸ rfl
theorem resolveList_mono {cur : Option Nat} {tc tc'' : TC}
    (hm : ∀ q p, tc.used.lookup q = some p → tc''.used.lookup q = some p) :
    ∀ (es : List Ex) (ts : List Ty), resolveList cur tc es = some ts → resolveList cur tc'' es = some ts
  | [], ts, h => by
    rw [resolveList] at h ⊢; exact h
  | e :: es, ts, h => by
    rw [resolveList_cons] at h ⊢
    obtain ⟨t, h1, h⟩ := Option.bind_eq_some_iff.1 h
    obtain ⟨ts', h2, h⟩ := Option.map_eq_some_iff.1 h
    rw [resolve_mono hm e t h1, Option.bind_some, resolveList_mono hm es ts' h2]
    exact h ▸ rfl
end

/-! ### round trip

Proved for every table `tc2` that maps the names of the imports of `tc'` back to them: for `tc'` itself that is `Inv1`,
which `render` keeps. -/

theorem render_roundtrip_later_both {c : Nat} {pname : Nat → String} {tc2 : TC} :
    (∀ t tc tc' e, render (some c) pname tc t = some (tc', e) → WF t = true →
      (∀ p n, tc'.imports.lookup p = some n → tc2.used.lookup n = some p) → resolve (some c) tc2 e = some t) ∧
    (∀ ts tc tc' es, renderList (some c) pname tc ts = some (tc', es) → WFList ts = true →
      (∀ p n, tc'.imports.lookup p = some n → tc2.used.lookup n = some p) → resolveList (some c) tc2 es = some ts) := by
  refine render_induct ?_ ?_ ?_
  · intro tag kids tc tc1 tc' etag es h1 h2 ih hwf hm
    rw [WF_node, Bool.and_eq_true] at hwf
    have hl := (render_ext_both.2 kids tc1 tc' es h2).imports
    rw [resolve_node, renderTag_roundtrip hwf.1 h1 (fun p n hp => hm p n (hl p n hp)), Option.bind_some, ih hwf.2 hm]
    rfl
  · intro tc _ _; rw [resolveList]
  · intro t ts tc tc1 tc' e es h1 h2 ih1 ih2 hwf hm
    simp only [WFList, Bool.and_eq_true] at hwf
    have hl := (render_ext_both.2 ts tc1 tc' es h2).imports
    rw [resolveList_cons, ih1 hwf.1 (fun p n hp => hm p n (hl p n hp)), Option.bind_some, ih2 hwf.2 hm]
    rfl

theorem render_roundtrip1 {c : Nat} {pname : Nat → String} (t : Ty) (tc tc' : TC) (e : Ex) (hi : Inv1 tc)
    (hwf : WF t = true) (h : render (some c) pname tc t = some (tc', e)) : resolve (some c) tc' e = some t :=
  render_roundtrip_later_both.1 t tc tc' e h hwf (render_inv1_both.1 t tc tc' e h hi)

theorem renderList_roundtrip1 {c : Nat} {pname : Nat → String} (ts : List Ty) (tc tc' : TC) (es : List Ex)
    (hi : Inv1 tc) (hwf : WFList ts = true) (h : renderList (some c) pname tc ts = some (tc', es)) :
    resolveList (some c) tc' es = some ts :=
  render_roundtrip_later_both.2 ts tc tc' es h hwf (render_inv1_both.2 ts tc tc' es h hi)

theorem render_roundtrip {c : Nat} {pname : Nat → String} :
    ∀ (t : Ty) (tc tc' : TC) (e : Ex), Inv tc → WF t = true →
      render (some c) pname tc t = some (tc', e) → resolve (some c) tc' e = some t :=
  fun t tc tc' e hi => render_roundtrip1 t tc tc' e hi.1

theorem renderList_roundtrip {c : Nat} {pname : Nat → String} :
    ∀ (ts : List Ty) (tc tc' : TC) (es : List Ex), Inv tc → WFList ts = true →
      renderList (some c) pname tc ts = some (tc', es) → resolveList (some c) tc' es = some ts :=
  fun ts tc tc' es hi => renderList_roundtrip1 ts tc tc' es hi.1

/-! ### every qualifier is imported -/

theorem render_quals_lookup {cur : Option Nat} {pname : Nat → String} :
    (∀ t tc tc' e, render cur pname tc t = some (tc', e) → ∀ q ∈ quals e, ∃ p, tc'.imports.lookup p = some q) ∧
    (∀ ts tc tc' es, renderList cur pname tc ts = some (tc', es) →
      ∀ q ∈ qualsList es, ∃ p, tc'.imports.lookup p = some q) := by
  refine render_induct ?_ ?_ ?_
  · intro tag kids tc tc1 tc' etag es h1 h2 ih q hq
    rcases mem_quals_node.1 hq with ⟨name, rfl⟩ | hq
    · -- a qualifier that is written is the name `addImport` returned
      rcases renderTag_cases h1 with ⟨_, hns⟩ | ⟨p, _, _, _, _, _, _, ha, he⟩
      · exact absurd rfl (hns q name)
      · cases he
        exact ⟨p, (render_ext_both.2 kids tc1 tc' es h2).imports p q (addImport_lookup ha)⟩
    · exact ih q hq
  · intro tc q hq; simp [qualsList] at hq
  · intro t ts tc tc1 tc' e es h1 h2 ih1 ih2 q hq
    simp only [qualsList, List.mem_append] at hq
    rcases hq with hq | hq
    · obtain ⟨p, hp⟩ := ih1 q hq
      exact ⟨p, (render_ext_both.2 ts tc1 tc' es h2).imports p q hp⟩
    · exact ih2 q hq

theorem render_quals_imported {cur : Option Nat} {pname : Nat → String} :
    ∀ (t : Ty) (tc tc' : TC) (e : Ex), Inv tc → render cur pname tc t = some (tc', e) →
      ∀ q ∈ quals e, (tc'.used.lookup q).isSome := by
  intro t tc tc' e hi h q hq
  obtain ⟨p, hp⟩ := render_quals_lookup.1 t tc tc' e h q hq
  rw [(render_inv t tc tc' e hi h).1 p q hp]; rfl

theorem renderList_quals_imported {cur : Option Nat} {pname : Nat → String} :
    ∀ (ts : List Ty) (tc tc' : TC) (es : List Ex), Inv tc → renderList cur pname tc ts = some (tc', es) →
      ∀ q ∈ qualsList es, (tc'.used.lookup q).isSome := by
  intro ts tc tc' es hi h q hq
  obtain ⟨p, hp⟩ := render_quals_lookup.2 ts tc tc' es h q hq
  rw [(renderList_inv ts tc tc' es hi h).1 p q hp]; rfl

/-! ### every import added while spelling a type is used by it -/

theorem render_no_unused_both {cur : Option Nat} {pname : Nat → String} :
    (∀ t tc tc' e, render cur pname tc t = some (tc', e) →
      ∀ p n, tc'.imports.lookup p = some n → tc.imports.lookup p = some n ∨ n ∈ quals e) ∧
    (∀ ts tc tc' es, renderList cur pname tc ts = some (tc', es) →
      ∀ p n, tc'.imports.lookup p = some n → tc.imports.lookup p = some n ∨ n ∈ qualsList es) := by
  refine render_induct ?_ ?_ ?_
  · intro tag kids tc tc1 tc' etag es h1 _ ih p n hl
    rcases ih p n hl with hl1 | hm
    · -- an import the node itself added is named by the node's selector
      rcases renderTag_cases h1 with ⟨rfl, _⟩ | ⟨_, name, _, q, _, _, _, ha, rfl⟩
      · exact Or.inl hl1
      · exact (addImport_new ha p n hl1).imp_right fun e => mem_quals_node.2 (Or.inl ⟨name, by rw [e]⟩)
    · exact Or.inr (mem_quals_node.2 (Or.inr hm))
  · exact fun _ _ _ hl => Or.inl hl
  · intro t ts tc tc1 tc' e es _ _ ih1 ih2 p n hl
    simp only [qualsList, List.mem_append]
    rcases ih2 p n hl with hl1 | hm
    · exact (ih1 p n hl1).imp_right Or.inl
    · exact Or.inr (Or.inr hm)

theorem render_no_unused {cur : Option Nat} {pname : Nat → String} :
    ∀ (t : Ty) (tc tc' : TC) (e : Ex), render cur pname tc t = some (tc', e) →
      ∀ p n, tc'.imports.lookup p = some n → tc.imports.lookup p = some n ∨ n ∈ quals e :=
  render_no_unused_both.1

theorem renderList_no_unused {cur : Option Nat} {pname : Nat → String} :
    ∀ (ts : List Ty) (tc tc' : TC) (es : List Ex), renderList cur pname tc ts = some (tc', es) →
      ∀ p n, tc'.imports.lookup p = some n → tc.imports.lookup p = some n ∨ n ∈ qualsList es :=
  render_no_unused_both.2

/-! ### a table that has no imports yet (the one `NewTypeConverter` returns, with or without reserved names) -/

theorem renderList_of_no_imports {c : Nat} {pname : Nat → String} {tc tc' : TC} {ts : List Ty} {es : List Ex}
    (h0 : tc.imports = []) (hwf : WFList ts = true) (h : renderList (some c) pname tc ts = some (tc', es)) :
    resolveList (some c) tc' es = some ts ∧ Inv1 tc' ∧
    ∀ p n, tc'.imports.lookup p = some n → tc.used.lookup n = none ∧ n ∈ qualsList es := by
  have hold : ∀ p n, tc.imports.lookup p ≠ some n := fun p n hl => by rw [h0] at hl; cases hl
  have hi : Inv1 tc := fun p n hl => absurd hl (hold p n)
  exact ⟨renderList_roundtrip1 ts tc tc' es hi hwf h, render_inv1_both.2 ts tc tc' es h hi, fun p n hl =>
    ⟨((render_ext_both.2 ts tc tc' es h).fresh p n hl).resolve_left (hold p n),
      (renderList_no_unused ts tc tc' es h p n hl).resolve_left (hold p n)⟩⟩

/-! ### `WF` is needed: a non-empty interface literal is spelled `any` -/

theorem render_iface_lossy (pname : Nat → String) :
    render (some 0) pname TC.empty (.node .ifaceLit []) = some (TC.empty, .node (.ident anyName) []) ∧
    resolve (some 0) TC.empty (.node (.ident anyName) []) = some (.node (.basic anyName) []) ∧
    (some (Ty.node (.basic anyName) []) ≠ some (Ty.node .ifaceLit [])) := by
  refine ⟨rfl, rfl, ?_⟩
  intro h
  cases h

/-! ### non-vacuity -/

/-- `map[store.N0]func(store_1.N1[store.N0]) int` seen from package 0: packages 1 and 2 both declare the name `store` -/
def exTy : Ty :=
  .node .map [.node (.named 1 16) [],
              .node (.func 1) [.node (.named 2 17) [.node (.named 1 16) []], .node (.basic 0) []]]

example : WF exTy = true := by decide

example : render (some 0) (fun _ => "store") TC.empty exTy =
    some (⟨[(2, "store_1"), (1, "store")], [("store_1", 2), ("store", 1)], [("store", 1)]⟩,
      .node .map [.node (.sel "store" 16) [],
                  .node (.func 1) [.node (.sel "store_1" 17) [.node (.sel "store" 16) []], .node (.ident 0) []]]) := by
  rfl

example : (render (some 0) (fun _ => "store") TC.empty exTy).bind (fun r => resolve (some 0) r.1 r.2) = some exTy := by
  rfl

end TConv

#print axioms TConv.render_total
#print axioms TConv.renderList_total
#print axioms TConv.render_inv
#print axioms TConv.renderList_inv
#print axioms TConv.render_mono
#print axioms TConv.renderList_mono
#print axioms TConv.resolve_mono
#print axioms TConv.resolveList_mono
#print axioms TConv.render_roundtrip
#print axioms TConv.renderList_roundtrip
#print axioms TConv.render_quals_imported
#print axioms TConv.renderList_quals_imported
#print axioms TConv.render_no_unused
#print axioms TConv.renderList_no_unused
#print axioms TConv.render_iface_lossy
