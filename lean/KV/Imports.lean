/-! # Model of `TypeConverter.AddImport` (internal/migrate/typeconv.go)

The converter's two tables, package path ↦ local name and local name ↦ package path, and the search for an alias when
the desired name is taken; a whole history of calls (`runImports`); `Imports()` and the writer's sort; the duplicate-set
check of `mergeResults`.  Definitions only; proofs in `KV/ImportsProofs.lean`: every call keeps the tables inverse to each
other (`Inv`), so distinct packages never share a local name, over every call sequence (C14). -/
namespace Imp

structure TC where
  imports : List (Nat × String)      -- package path (id) ↦ local name
  used : List (String × Nat)         -- local name ↦ package path
  counters : List (String × Nat)

def alias (base : String) (k : Nat) : String := base ++ "_" ++ toString k

/-- find the first `k ≥ c+1` whose alias is unused (the Go loop has no bound; `fuel` is the model's) -/
def findAlias (used : List (String × Nat)) (base : String) : Nat → Nat → Option (Nat × String)
  | 0, _ => none
  | fuel + 1, c =>
    match used.lookup (alias base (c + 1)) with
    | none => some (c + 1, alias base (c + 1))
    | some _ => findAlias used base fuel (c + 1)

def addImport (tc : TC) (path : Nat) (desired : String) : Option (TC × String) :=
  match tc.imports.lookup path with
  | some n => some (tc, n)
  | none =>
    match tc.used.lookup desired with
    | some _ =>       -- taken by another path (the path itself is not imported yet)
      match findAlias tc.used desired (tc.used.length + 1) ((tc.counters.lookup desired).getD 0) with
      | none => none
      | some (k, n) =>
        some ({ imports := (path, n) :: tc.imports, used := (n, path) :: tc.used,
                counters := (desired, k) :: tc.counters }, n)
    | none =>
      some ({ tc with imports := (path, desired) :: tc.imports, used := (desired, path) :: tc.used }, desired)

/-- the two tables are inverse to each other -/
def Inv (tc : TC) : Prop :=
  (∀ p n, tc.imports.lookup p = some n → tc.used.lookup n = some p) ∧
  (∀ n p, tc.used.lookup n = some p → tc.imports.lookup p = some n)

def TC.empty : TC := { imports := [], used := [], counters := [] }

/-- a whole history of AddImport calls; `none` only if the fuel of `findAlias` ran out -/
def runImports : TC → List (Nat × String) → Option (TC × List String)
  | tc, [] => some (tc, [])
  | tc, (p, d) :: rest =>
    match addImport tc p d with
    | none => none
    | some (tc', n) =>
      match runImports tc' rest with
      | none => none
      | some (tc'', ns) => some (tc'', n :: ns)

/-- `Imports()`: one spec per imported path; the alias is omitted when it equals the last path element (Go also keeps it
    when `declaredNames` records another name for the package; that is not modelled) -/
def importSpecs (lastElem : Nat → String) (tc : TC) : List (Nat × Option String) :=
  tc.imports.map (fun (p, n) => (p, if n = lastElem p then none else some n))

/-- what the writer does with them: sort by path (paths are distinct) -/
def sortedSpecs (l : List (Nat × Option String)) : List (Nat × Option String) :=
  l.mergeSort (fun a b => a.1 ≤ b.1)

/-- one step of the duplicate-set check: fail at a name already seen, otherwise remember it -/
def addName (r : Except String (List String)) (n : String) : Except String (List String) :=
  match r with
  | .error e => .error e
  | .ok a => if a.contains n then .error n else .ok (a ++ [n])

/-- mergeResults' duplicate-set check: files in order, each with its set names in order;
    `acc` = names seen so far (in order) -/
def mergeSets : List (List String) → List String → Except String (List String)
  | [], acc => .ok acc
  | f :: fs, acc =>
    match f.foldl addName (.ok acc) with
    | .error e => .error e
    | .ok a => mergeSets fs a

/-- the keys (paths) of the import table are pairwise distinct -/
def KeysNodup (tc : TC) : Prop := (tc.imports.map (·.1)).Nodup

end Imp
