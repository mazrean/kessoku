import KV.AcceptKahn
import KV.Kuhn
/-! C09, acceptance direction: `build2` and `buildStmts2` do not fail on a complete Kahn order.  `build2` fails
    (`noReturn`) only if the return node is missing from the order; `buildStmts2` fails (`noInitial`) only if no pool
    is initial, and following what unready pools wait for leads to one that is (`exists_ready`). -/
namespace KV

theorem build2_ok {g : Graph} (hret : g.retNode ∈ topoOrder g) : ∃ b, build2 g = .ok b :=
  ⟨_, by rw [build2_eq, if_pos (List.contains_iff_mem.mpr hret)]⟩

/-- a non-empty sound Kahn order starts with a node without requirements, hence at least one pool -/
theorem maxAntichain_pos {g : Graph} (hg : GWF g) {n : Nat} (hn : n ∈ topoOrder g) : 0 < maxAntichain g := by
  obtain ⟨hsound, _, hlt⟩ := topoOrder_sound hg
  cases ho : topoOrder g with
  | nil => rw [ho] at hn; cases hn
  | cons f post =>
    have hf : f < g.nodes.length := hlt f (by rw [ho]; exact List.mem_cons_self ..)
    -- nothing stands before `f`, so no slot of `f` is fed
    have hrev : g.rev.getD f [] = [] := List.eq_nil_of_length_eq_zero (Nat.eq_zero_of_not_pos fun hpos =>
      (hsound [] f post (by rw [ho]; rfl) 0 hpos).elim fun _ h => nomatch h.1)
    have hmem : f ∈ (List.range g.nodes.length).filter (fun v => decide (g.rev.getD v [] = [])) :=
      List.mem_filter.mpr ⟨List.mem_range.mpr hf, by simpa using hrev⟩
    exact Nat.lt_of_lt_of_le (List.length_pos_of_mem hmem) (maxAntichain_ge_zero_nodes hg)

/-- the ready pool that `exists_ready` finds from the pool of `n0` with the argument nodes alone is initial -/
theorem PoolFacts.buildStmts2_ok {g : Graph} {order : List Nat} {pools : List (List Nat)} (hf : PoolFacts g order pools)
    (hk : 0 < pools.length) {n0 : Nat} (hn0 : n0 ∈ order) (hna : isArgNode g n0 = false) :
    ∃ parent chains, buildStmts2 g pools = .ok (parent, chains) := by
  obtain ⟨i, hi, hn0i⟩ := hf.placed hk n0 hn0 hna
  obtain ⟨q, hq, hqne, _, hqd⟩ :=
    exists_ready hf (v := []) (fun _ => mem_argNodesOf) (fun _ h => nomatch h) hi (List.ne_nil_of_mem hn0i) List.not_mem_nil
  have hqin : q ∈ (List.range pools.length).filter (isInitial g pools) :=
    List.mem_filter.mpr ⟨List.mem_range.mpr hq, by rw [isInitial, hqd, List.isEmpty_eq_false_iff.mpr hqne]; rfl⟩
  unfold buildStmts2
  rcases stmtsState_cases g pools with ⟨_, hemp⟩ | ⟨_, _, hst⟩
  · rw [hemp] at hqin; cases hqin
  · rw [hst]; exact ⟨_, _, rfl⟩

theorem buildStmts2_ok {g : Graph} (hg : GWF2 g) (hall : ∀ m, m < g.nodes.length → m ∈ topoOrder g)
    {n0 : Nat} (hn0 : n0 < g.nodes.length) (hna : isArgNode g n0 = false) {b : BuildOut} (hb : build2 g = .ok b) :
    ∃ parent chains, buildStmts2 g b.pools = .ok (parent, chains) := by
  obtain ⟨_, hnd, hlt⟩ := topoOrder_sound hg.toGWF
  have h1 := bpass1_inv (g := g) (topoOrder g) (maxAntichain g) hnd hlt
  obtain ⟨_, rfl⟩ := build2_eq_buildOut hb
  exact (poolFacts_of_build hg _).buildStmts2_ok (by rw [h1.lenPools]; exact maxAntichain_pos hg.toGWF (hall n0 hn0))
    (hall n0 hn0) hna

end KV

#print axioms KV.buildStmts2_ok
