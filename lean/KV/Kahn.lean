import KV.Plan
import KV.ListLemmas
/-! Kahn's algorithm as `graph.go` runs it (`topoOrder`: a FIFO queue, a count of unmet requirements per node and
    one "provided" flag per requirement slot).  The invariant of its two loops, an induction principle for the
    outer loop, and soundness of the order: every slot of an output node was fed by an edge of an earlier one. -/

namespace KV

def hasEdge (g : Graph) (n m i : Nat) : Prop := ∃ e ∈ g.edges.getD n [], e.dst = m ∧ e.slot = i

/-- graph well-formedness needed by Kahn -/
structure GWF (g : Graph) : Prop where
  slotLt : ∀ n e, e ∈ g.edges.getD n [] → e.slot < (g.rev.getD e.dst []).length
  dstLt : ∀ n e, e ∈ g.edges.getD n [] → e.dst < g.nodes.length
  revLen : g.rev.length = g.nodes.length
  slotsEq : ∀ m, m < g.nodes.length → nodeSlots g m = (g.rev.getD m []).length

/-! ### the two loops, one step at a time -/

def topoInit (g : Graph) : TopoSt :=
  { queue := (List.range g.nodes.length).filter (fun i => (g.rev.getD i []).length == 0),
    counts := (List.range g.nodes.length).map (fun i => (g.rev.getD i []).length),
    provided := (List.range g.nodes.length).map (fun i => List.replicate (nodeSlots g i) false),
    visited := [], out := [] }

def topoFuel (g : Graph) : Nat := g.nodes.length + (g.edges.foldl (fun a l => a + l.length) 0) + 4

theorem topoOrder_eq (g : Graph) : topoOrder g = (topoLoop g (topoFuel g) (topoInit g)).out := rfl

def topoEdge (e : Edge) (st : TopoSt) : TopoSt :=
  if e.dst ≥ st.counts.length || (st.provided.getD e.dst []).getD e.slot false then st
  else
    { st with counts := st.counts.set e.dst (st.counts.getD e.dst 0 - 1),
              provided := st.provided.set e.dst ((st.provided.getD e.dst []).set e.slot true),
              queue := st.queue ++ (if st.counts.getD e.dst 0 - 1 = 0 then [e.dst] else []) }

theorem topoEdges_cons (e : Edge) (es : List Edge) (st : TopoSt) :
    topoEdges (e :: es) st = topoEdges es (topoEdge e st) := by
  simp only [topoEdges, topoEdge, beq_iff_eq]
  split
  · rfl
  · split
    · rfl
    · rw [List.append_nil]

/-! ### the invariant -/

/-- One row of Kahn's tables: a node with `need` slots has count `c` and flags `fl`; the flagged slots are those in
    `D`, and `c` counts the others. -/
structure TRow (need : Nat) (D : Nat → Prop) (c : Nat) (fl : List Bool) : Prop where
  len : fl.length = need
  count : c + fl.countP id = need
  flag : ∀ i, fl.getD i false = true ↔ D i

namespace TRow
variable {need c : Nat} {D D' : Nat → Prop} {fl : List Bool}

theorem congr (h : TRow need D c fl) (hD : ∀ i, D i ↔ D' i) : TRow need D' c fl :=
  { h with flag := fun i => (h.flag i).trans (hD i) }

theorem count_zero_iff (h : TRow need D c fl) : c = 0 ↔ ∀ i, i < need → D i := by
  have : fl.countP id = fl.length ↔ ∀ i, i < need → D i := by
    rw [List.countP_eq_length, List.forall_mem_iff_forall_getElem, ← h.len]
    exact forall₂_congr fun i hi => by rw [← h.flag i, List.getD_eq_getElem false hi]; exact Iff.rfl
  have hc := h.count
  have hl := h.len
  rw [← this]; omega

/-- a slot is fed that was not: the count was positive, and drops by one -/
theorem feed (h : TRow need D c fl) {s : Nat} (hs : s < need) (hf : fl.getD s false = false) :
    0 < c ∧ TRow need (fun i => D i ∨ s = i) (c - 1) (fl.set s true) := by
  have hsl : s < fl.length := h.len ▸ hs
  have htc : (fl.set s true).countP id = fl.countP id + 1 := by
    rw [List.countP_set hsl, ← List.getD_eq_getElem false hsl, hf]; rfl
  have hle := List.countP_le_length (p := id) (l := fl.set s true)
  rw [htc, List.length_set, h.len] at hle
  have hc := h.count
  refine ⟨by omega, List.length_set.trans h.len, by rw [htc]; omega, fun i => ?_⟩
  by_cases hi : s = i
  · subst hi; rw [List.getD_set_self _ _ hsl]; exact ⟨fun _ => Or.inr rfl, fun _ => rfl⟩
  · rw [List.getD_set_ne _ _ hi, h.flag]; exact (or_iff_left hi).symm

end TRow

/-- Kahn's tables are consistent with the graph, and the slots flagged as provided are exactly those in `D`.
    `D` is a parameter because it moves: between two rounds of `topoLoop` it is "fed by an edge of a visited node";
    while the edges of one node are processed it grows edge by edge (`topoEdge_inv`, `topoEdges_inv`). -/
structure TInv (g : Graph) (D : Nat → Nat → Prop) (st : TopoSt) : Prop where
  lenC : st.counts.length = g.nodes.length
  lenP : st.provided.length = g.nodes.length
  row : ∀ m, m < g.nodes.length → TRow (g.rev.getD m []).length (D m) (st.counts.getD m 0) (st.provided.getD m [])
  zero : ∀ m, m < g.nodes.length → (st.counts.getD m 0 = 0 ↔ m ∈ st.queue ∨ m ∈ st.visited)
  queueLt : ∀ m ∈ st.queue, m < g.nodes.length

theorem TInv.congr {g : Graph} {D D' : Nat → Nat → Prop} {st : TopoSt} (h : TInv g D st)
    (hD : ∀ m i, D m i ↔ D' m i) : TInv g D' st :=
  { h with row := fun m hm => (h.row m hm).congr (hD m) }

theorem topoEdge_inv {g : Graph} {D : Nat → Nat → Prop} {st : TopoSt} (h : TInv g D st) {e : Edge}
    (hdst : e.dst < g.nodes.length) (hslot : e.slot < (g.rev.getD e.dst []).length) :
    TInv g (fun m i => D m i ∨ (e.dst = m ∧ e.slot = i)) (topoEdge e st) ∧
      (topoEdge e st).visited = st.visited ∧ (topoEdge e st).out = st.out ∧
      ∃ ps, (topoEdge e st).queue = st.queue ++ ps ∧ ps.Sublist [e.dst] := by
  have hdC : e.dst < st.counts.length := by rw [h.lenC]; exact hdst
  have hdP : e.dst < st.provided.length := by rw [h.lenP]; exact hdst
  have hge : decide (e.dst ≥ st.counts.length) = false := decide_eq_false (Nat.not_le_of_lt hdC)
  unfold topoEdge
  rw [hge, Bool.false_or]
  cases hflag : (st.provided.getD e.dst []).getD e.slot false
  · rw [if_neg Bool.false_ne_true]
    -- the slot was not fed, so the count of the target was positive: it is neither queued nor visited
    obtain ⟨hcpos, hrow⟩ := (h.row e.dst hdst).feed hslot hflag
    have hdq : e.dst ∉ st.queue ∧ e.dst ∉ st.visited :=
      not_or.mp (mt (h.zero e.dst hdst).mpr (Nat.ne_of_gt hcpos))
    refine ⟨{ lenC := List.length_set.trans h.lenC, lenP := List.length_set.trans h.lenP, row := ?_, zero := ?_,
              queueLt := ?_ }, rfl, rfl, _, rfl, ?_⟩
    · intro m hm
      show TRow _ _ ((st.counts.set e.dst _).getD m 0) ((st.provided.set e.dst _).getD m [])
      by_cases hme : e.dst = m
      · subst hme
        rw [List.getD_set_self _ _ hdP, List.getD_set_self _ _ hdC]
        exact hrow.congr fun i => or_congr_right (and_iff_right rfl).symm
      · rw [List.getD_set_ne _ _ hme, List.getD_set_ne _ _ hme]
        exact (h.row m hm).congr fun i => (or_iff_left fun hc => hme hc.1).symm
    · intro m hm
      show (st.counts.set e.dst _).getD m 0 = 0 ↔ m ∈ st.queue ++ _ ∨ m ∈ st.visited
      rw [List.mem_append, List.mem_ite_nil_right, List.mem_singleton]
      by_cases hme : e.dst = m
      · subst hme
        rw [List.getD_set_self _ _ hdC]
        simp only [hdq.1, hdq.2, false_or, or_false, and_true]
      · rw [List.getD_set_ne _ _ hme, h.zero m hm]
        simp only [Ne.symm hme, and_false, or_false]
    · intro m hm
      rcases List.mem_append.mp hm with hm | hm
      · exact h.queueLt m hm
      · rw [List.mem_singleton.mp (List.mem_ite_nil_right.mp hm).2]; exact hdst
    · split
      · exact List.Sublist.refl _
      · exact List.nil_sublist _
  · rw [if_pos rfl]
    refine ⟨h.congr fun m i => (or_iff_left_of_imp ?_).symm, rfl, rfl, [], (List.append_nil _).symm,
      List.nil_sublist _⟩
    rintro ⟨rfl, rfl⟩
    exact ((h.row _ hdst).flag _).mp hflag

theorem topoEdges_inv {g : Graph} (es : List Edge)
    (hes : ∀ e ∈ es, e.dst < g.nodes.length ∧ e.slot < (g.rev.getD e.dst []).length)
    {D : Nat → Nat → Prop} {st : TopoSt} (h : TInv g D st) :
    TInv g (fun m i => D m i ∨ ∃ e ∈ es, e.dst = m ∧ e.slot = i) (topoEdges es st) ∧
      (topoEdges es st).visited = st.visited ∧ (topoEdges es st).out = st.out ∧
      ∃ ps, (topoEdges es st).queue = st.queue ++ ps ∧ ps.Sublist (es.map (·.dst)) := by
  induction es generalizing D st with
  | nil =>
    exact ⟨h.congr fun m i => by simp, rfl, rfl, [], (List.append_nil _).symm, .slnil⟩
  | cons e es ih =>
    have he := hes e (List.mem_cons_self ..)
    obtain ⟨h1, v1, o1, ps1, q1, s1⟩ := topoEdge_inv h he.1 he.2
    obtain ⟨h2, v2, o2, ps2, q2, s2⟩ := ih (fun e' he' => hes e' (List.mem_cons_of_mem _ he')) h1
    rw [topoEdges_cons]
    exact ⟨h2.congr fun m i => by simp only [List.mem_cons, exists_eq_or_imp, or_assoc], v2.trans v1, o2.trans o1,
      ps1 ++ ps2, by rw [q2, q1, List.append_assoc], s1.append s2⟩

theorem TInv.pop {g : Graph} {D : Nat → Nat → Prop} {st : TopoSt} (h : TInv g D st) {n : Nat} {q v : List Nat}
    (hq : st.queue = n :: q) (hv : ∀ m, m ∈ v ↔ m ∈ st.visited ∨ m = n) :
    TInv g D { st with queue := q, visited := v } :=
  { h with
    zero := fun m hm => (h.zero m hm).trans (by
      show m ∈ st.queue ∨ m ∈ st.visited ↔ m ∈ q ∨ m ∈ v
      rw [hq, hv, List.mem_cons]; simp only [or_assoc, or_comm, or_left_comm])
    queueLt := fun m hm => h.queueLt m (by rw [hq]; exact List.mem_cons_of_mem _ hm) }

/-- `TInv` between two rounds of `topoLoop`, where the output so far is the list of visited nodes -/
structure KInv (g : Graph) (st : TopoSt) : Prop where
  t : TInv g (fun m i => ∃ n ∈ st.visited, hasEdge g n m i) st
  outEq : st.out = st.visited

theorem topoLoop_induction {g : Graph} (hg : GWF g) {Q : Nat → TopoSt → Prop}
    (drop : ∀ {k st n q}, KInv g st → st.queue = n :: q → n ∈ st.visited →
      Q (k + 1) st → Q k { st with queue := q })
    (visit : ∀ {k st n q ps s1}, KInv g st → st.queue = n :: q → n ∉ st.visited →
      s1.queue = q ++ ps → ps.Sublist ((g.edges.getD n []).map (·.dst)) →
      s1.visited = st.visited ++ [n] → s1.out = st.out ++ [n] → Q (k + 1) st → Q k s1)
    {fuel : Nat} {st : TopoSt} (h : KInv g st) (hQ : Q fuel st) :
    ∃ k, KInv g (topoLoop g fuel st) ∧ Q k (topoLoop g fuel st) ∧ (k = 0 ∨ (topoLoop g fuel st).queue = []) := by
  induction fuel generalizing st with
  | zero => exact ⟨0, h, hQ, Or.inl rfl⟩
  | succ k ih =>
    simp only [topoLoop]
    split
    · rename_i hq; exact ⟨k + 1, h, hQ, Or.inr hq⟩
    · rename_i n q hq
      split
      · rename_i hv
        have hv : n ∈ st.visited := by simpa using hv
        exact ih ⟨h.t.pop hq (fun m => ⟨Or.inl, fun hm => hm.elim id (· ▸ hv)⟩), h.outEq⟩
          (drop h hq hv hQ)
      · rename_i hv
        have hv : n ∉ st.visited := by simpa using hv
        obtain ⟨h1, v1, o1, ps, q1, s1⟩ := topoEdges_inv (g.edges.getD n [])
          (fun e he => ⟨hg.dstLt n e he, hg.slotLt n e he⟩)
          (h.t.pop (v := st.visited ++ [n]) hq (fun m => by rw [List.mem_append, List.mem_singleton]))
        refine ih ⟨{ h1 with row := fun m hm => (h1.row m hm).congr fun i => ?_ }, ?_⟩
          (visit h hq hv q1 s1 v1 (by rw [o1]) hQ)
        · show _ ↔ ∃ n' ∈ (topoEdges _ _).visited, hasEdge g n' m i
          rw [v1]
          simp only [List.mem_append, List.mem_singleton, or_and_right, exists_or, exists_eq_left, hasEdge]
        · show (topoEdges _ _).out ++ [n] = (topoEdges _ _).visited
          rw [o1, v1, h.outEq]

theorem topoInit_inv {g : Graph} (hg : GWF g) : KInv g (topoInit g) where
  outEq := rfl
  t := {
    lenC := (List.length_map _).trans List.length_range
    lenP := (List.length_map _).trans List.length_range
    row := fun m hm => by
      show TRow _ _ (((List.range _).map _).getD m 0) (((List.range _).map _).getD m [])
      rw [List.getD_map_range, if_pos hm, List.getD_map_range, if_pos hm]
      exact ⟨List.length_replicate.trans (hg.slotsEq m hm), by rw [List.countP_replicate]; rfl,
        fun i => by rw [List.getD_replicate_self]; exact ⟨nofun, fun ⟨_, h, _⟩ => nomatch (h : _ ∈ [])⟩⟩
    zero := fun m hm => by
      show ((List.range _).map _).getD m 0 = 0 ↔ m ∈ List.filter _ _ ∨ m ∈ []
      rw [List.getD_map_range, if_pos hm, List.mem_filter, List.mem_range, beq_iff_eq]
      exact ⟨fun h => Or.inl ⟨hm, h⟩, fun h => h.elim And.right (nomatch ·)⟩
    queueLt := fun m hm => List.mem_range.mp (List.mem_filter.mp hm).1 }

/-! ### soundness of the order -/

/-- every output node has all its slots fed by edges of strictly earlier output nodes -/
def SoundL (g : Graph) (l : List Nat) : Prop :=
  ∀ pre m post, l = pre ++ m :: post → ∀ i, i < (g.rev.getD m []).length → ∃ n ∈ pre, hasEdge g n m i

theorem soundL_nil (g : Graph) : SoundL g [] := by
  intro pre m post h; simp at h

theorem soundL_snoc {g : Graph} {l : List Nat} {m : Nat} (hl : SoundL g l)
    (hm : ∀ i, i < (g.rev.getD m []).length → ∃ n ∈ l, hasEdge g n m i) : SoundL g (l ++ [m]) := by
  intro pre x post h i hi
  rcases List.concat_eq_append_cons h with ⟨post', h⟩ | ⟨rfl, rfl, _⟩
  · exact hl pre x post' h i hi
  · exact hm i hi

theorem topoOrder_sound {g : Graph} (hg : GWF g) :
    SoundL g (topoOrder g) ∧ (topoOrder g).Nodup ∧ ∀ m ∈ topoOrder g, m < g.nodes.length := by
  refine (topoLoop_induction hg (fuel := topoFuel g)
    (Q := fun _ st => SoundL g st.out ∧ st.out.Nodup ∧ ∀ m ∈ st.out, m < g.nodes.length)
    (fun _ _ _ h => h) ?_ (topoInit_inv hg) ⟨soundL_nil g, List.nodup_nil, fun _ hm => nomatch hm⟩).elim
    fun _ h => h.2.1
  intro _ st n q _ s1 h hq hv _ _ _ ho ⟨hs, hn, hl⟩
  have hnq : n ∈ st.queue := by rw [hq]; exact List.mem_cons_self ..
  have hnlt := h.t.queueLt n hnq
  rw [ho]
  refine ⟨soundL_snoc hs ?_, List.nodup_concat.mpr ⟨hn, h.outEq ▸ hv⟩, ?_⟩
  · -- `n` was queued, so its count is zero: all its slots are fed by visited nodes, which are the output so far
    rw [h.outEq]
    exact (h.t.row n hnlt).count_zero_iff.mp ((h.t.zero n hnlt).mpr (Or.inl hnq))
  · intro m hm
    rcases List.mem_append.mp hm with hm | hm
    · exact hl m hm
    · rw [List.mem_singleton.mp hm]; exact hnlt

/-! ### dependency-free nodes come first (C05: they are the ones `findOptimalPool` can place before anything is provided) -/

def ZSorted (g : Graph) (l : List Nat) : Prop := l.Pairwise (fun a b => g.rev.getD a [] ≠ [] → g.rev.getD b [] ≠ [])

/-- The order followed by the queue is `ZSorted` throughout: the queue starts with the nodes without dependencies,
    and whatever `topoEdges` appends is the target of an edge. -/
theorem topoOrder_zsorted {g : Graph} (hg : GWF g) : ZSorted g (topoOrder g) := by
  refine (topoLoop_induction hg (fuel := topoFuel g) (Q := fun _ st => ZSorted g (st.out ++ st.queue))
    ?_ ?_ (topoInit_inv hg) ?_).elim fun _ h => h.2.1.sublist (List.sublist_append_left _ _)
  · intro _ st n q _ hq _ h
    rw [hq] at h
    exact h.sublist ((List.Sublist.refl _).append (List.sublist_cons_self n q))
  · intro _ st n q ps s1 _ hq _ hq1 hps _ ho h
    rw [hq] at h
    have hnz : ∀ p ∈ ps, g.rev.getD p [] ≠ [] := by
      intro p hp hc
      obtain ⟨e, he, rfl⟩ := List.mem_map.mp (hps.subset hp)
      have := hg.slotLt n e he
      rw [hc] at this
      exact Nat.not_lt_zero _ this
    show ZSorted g (s1.out ++ s1.queue)
    rw [ho, hq1, show st.out ++ [n] ++ (q ++ ps) = (st.out ++ n :: q) ++ ps by simp]
    exact List.pairwise_append.mpr
      ⟨h, List.pairwise_of_forall_mem_list fun _ _ b hb _ => hnz b hb, fun _ _ b hb _ => hnz b hb⟩
  · refine List.pairwise_of_forall_mem_list fun a ha _ _ hnza => absurd ?_ hnza
    have := (List.mem_filter.mp ha).2
    exact List.eq_nil_of_length_eq_zero (by simpa using this)

/-- **dependency-free nodes first**: in the Kahn order, everything before a node without dependencies
    has no dependencies either -/
theorem topoOrder_zero_prefix {g : Graph} (hg : GWF g) (pre post : List Nat) (n : Nat)
    (hsplit : topoOrder g = pre ++ n :: post) (hz : g.rev.getD n [] = []) :
    ∀ m ∈ pre, g.rev.getD m [] = [] := by
  have hout := topoOrder_zsorted hg
  rw [hsplit] at hout
  intro m hm
  exact Classical.byContradiction fun hc =>
    (List.pairwise_append.mp hout).2.2 m hm n (List.mem_cons_self ..) hc hz

end KV
