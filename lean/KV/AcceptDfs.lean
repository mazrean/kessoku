import KV.Acyclic
/-! # Soundness (including fuel adequacy) of the three-colour DFS cycle detector `detectCycles`

In a graph without a cycle the search never meets a gray node and, with the model's fuel, never runs dry: it
answers `false` (`dfs_spec`, `detectCycles_false`).  `detectCycles_sound` is the contrapositive. -/
namespace KV

theorem dfsVisit_succ {edges : List (List Edge)} {fuel node : Nat} {colors c : List Nat}
    (h : dfsEdges edges fuel (edges.getD node []) (colors.set node 1) = (c, false)) :
    dfsVisit edges (fuel + 1) node colors = (c.set node 2, false) := by
  simp only [dfsVisit, h, Bool.false_eq_true, if_false]

theorem dfsEdges_nil (edges : List (List Edge)) (fuel : Nat) (colors : List Nat) :
    dfsEdges edges fuel [] colors = (colors, false) := by
  cases fuel <;> rfl

theorem dfsEdges_white {edges : List (List Edge)} {fuel : Nat} {e : Edge} {es : List Edge} {colors c : List Nat}
    (hw : colors.getD e.dst 0 = 0) (h : dfsVisit edges fuel e.dst colors = (c, false)) :
    dfsEdges edges (fuel + 1) (e :: es) colors = dfsEdges edges fuel es c := by
  simp only [dfsEdges, hw, h]
  rfl

theorem dfsEdges_black {edges : List (List Edge)} {fuel : Nat} {e : Edge} {es : List Edge} {colors : List Nat}
    (h1 : colors.getD e.dst 0 ≠ 1) (h0 : colors.getD e.dst 0 ≠ 0) :
    dfsEdges edges (fuel + 1) (e :: es) colors = dfsEdges edges fuel es colors := by
  simp only [dfsEdges, beq_iff_eq, if_neg h1, if_neg h0]

/-- every white node `v < k` counts `1 + out-degree`: one call of `dfsVisit`, and one of `dfsEdges` per edge -/
abbrev wsum (edges : List (List Edge)) (colors : List Nat) (k : Nat) : Nat :=
  sumBelow (fun v => 1 + (edges.getD v []).length) (fun v => colors.getD v 0 = 0) k

theorem wsum_fuel (edges : List (List Edge)) (c : List Nat) (N : Nat) :
    wsum edges c N + 1 ≤ 2 * N + 2 + (edges.foldl (fun a l => a + l.length) 0) * 2 := by
  have : wsum edges c N ≤ 1 * N + _ := sumBelow_le_foldl edges 1 fun _ _ => Nat.le_refl _
  omega

theorem wsum_gray (edges : List (List Edge)) {colors : List Nat} {node k : Nat} (hw : colors.getD node 0 = 0)
    (hn : node < colors.length) (hk : node < k) :
    wsum edges (colors.set node 1) k + (1 + (edges.getD node []).length) ≤ wsum edges colors k := by
  refine sumBelow_remove (p := fun v => colors.getD v 0 = 0) (p' := fun v => (colors.set node 1).getD v 0 = 0)
    hw (by rw [List.getD_set_self _ _ hn]; exact Nat.one_ne_zero) (fun v _ hv => ?_) hk
  rw [List.getD_set] at hv
  split at hv
  · cases hv
  · exact hv

/-- `c'` arises from `c` by turning white nodes black -/
structure Darker (c c' : List Nat) : Prop where
  len : c'.length = c.length
  gray : ∀ v, c'.getD v 0 = 1 ↔ c.getD v 0 = 1
  white : ∀ v, c'.getD v 0 = 0 → c.getD v 0 = 0

theorem Darker.refl (c : List Nat) : Darker c c := ⟨rfl, fun _ => Iff.rfl, fun _ h => h⟩

theorem Darker.trans {a b c : List Nat} (h₁ : Darker a b) (h₂ : Darker b c) : Darker a c :=
  ⟨h₂.len.trans h₁.len, fun v => (h₂.gray v).trans (h₁.gray v), fun v h => h₁.white v (h₂.white v h)⟩

theorem Darker.wsum_le {c c' : List Nat} (h : Darker c c') (edges : List (List Edge)) (k : Nat) :
    wsum edges c' k ≤ wsum edges c k :=
  sumBelow_mono fun v _ => h.white v

theorem Darker.visit {c c₂ : List Nat} {node : Nat} (hn : node < c.length) (hw : c.getD node 0 = 0)
    (h : Darker (c.set node 1) c₂) : Darker c (c₂.set node 2) := by
  have hn₂ : node < c₂.length := by rw [h.len, List.length_set]; exact hn
  refine ⟨by rw [List.length_set, h.len, List.length_set], fun v => ?_, fun v hv => ?_⟩
  · by_cases hv : node = v
    · subst hv; rw [List.getD_set_self _ _ hn₂, hw]; exact ⟨nofun, nofun⟩
    · rw [List.getD_set_ne _ _ hv, h.gray, List.getD_set_ne _ _ hv]
  · by_cases hnv : node = v
    · subst hnv; rw [List.getD_set_self _ _ hn₂] at hv; cases hv
    · rw [List.getD_set_ne _ _ hnv] at hv
      have := h.white v hv
      rwa [List.getD_set_ne _ _ hnv] at this

/-- In a graph without a cycle: a visit of a white node to which every gray node has a path, and the scan of edges
    of a node `cur` to which every other gray node has a path, answer `false` and only blacken white nodes —
    given fuel for one call per white node and one per edge of a white node (and per edge still to scan). -/
theorem dfs_spec (g : Graph) (N : Nat) (hdst : ∀ n e, e ∈ g.edges.getD n [] → e.dst < N)
    (hacyc : ∀ n, ¬ Path g n n) :
    ∀ fuel,
      (∀ node colors, colors.length = N → node < N → colors.getD node 0 = 0 →
        wsum g.edges colors N + 1 ≤ fuel → (∀ v, colors.getD v 0 = 1 → Path g v node) →
        ∃ c, dfsVisit g.edges fuel node colors = (c, false) ∧ Darker colors c) ∧
      (∀ cur es colors, colors.length = N → (∀ e, e ∈ es → e ∈ g.edges.getD cur []) →
        wsum g.edges colors N + es.length + 1 ≤ fuel → (∀ v, colors.getD v 0 = 1 → v = cur ∨ Path g v cur) →
        ∃ c, dfsEdges g.edges fuel es colors = (c, false) ∧ Darker colors c) := by
  intro fuel
  induction fuel with
  | zero =>
    exact ⟨fun _ _ _ _ _ hf => absurd hf (Nat.not_succ_le_zero _),
      fun _ _ _ _ _ hf => absurd hf (Nat.not_succ_le_zero _)⟩
  | succ f ih =>
    obtain ⟨ihV, ihE⟩ := ih
    refine ⟨?_, ?_⟩
    · intro node colors hlen hnode hwhite hf hgray
      have hnl : node < colors.length := hlen ▸ hnode
      have hpay := wsum_gray g.edges hwhite hnl hnode
      obtain ⟨c, hc, hd⟩ := ihE node (g.edges.getD node []) (colors.set node 1)
        (by rw [List.length_set]; exact hlen) (fun _ h => h) (by omega) (by
          intro v hv
          rw [List.getD_set] at hv
          split at hv
          · rename_i hc; exact Or.inl hc.1.symm
          · exact Or.inr (hgray v hv))
      exact ⟨_, dfsVisit_succ hc, hd.visit hnl hwhite⟩
    · intro cur es colors hlen hes hf hgray
      cases es with
      | nil => exact ⟨colors, dfsEdges_nil .., Darker.refl _⟩
      | cons e es =>
        rw [List.length_cons] at hf
        have he : e ∈ g.edges.getD cur [] := hes e List.mem_cons_self
        have hes' : ∀ e', e' ∈ es → e' ∈ g.edges.getD cur [] := fun e' h => hes e' (List.mem_cons_of_mem _ h)
        by_cases hg1 : colors.getD e.dst 0 = 1
        · -- a gray target would close a cycle through `cur`
          exact absurd ((hgray e.dst hg1).elim (fun h => Path.single e he h) (fun hp => Path.cons e he rfl hp)) (hacyc cur)
        · by_cases hg0 : colors.getD e.dst 0 = 0
          · obtain ⟨c, hc, hd⟩ := ihV e.dst colors hlen (hdst cur e he) hg0 (by omega) (by
              intro v hv
              exact (hgray v hv).elim (fun h => h ▸ Path.single e he rfl) (fun hp => hp.snoc e he))
            have := hd.wsum_le g.edges N
            obtain ⟨c', hc', hd'⟩ := ihE cur es c (hd.len.trans hlen) hes' (by omega)
              (fun v hv => hgray v ((hd.gray v).mp hv))
            exact ⟨c', (dfsEdges_white hg0 hc).trans hc', hd.trans hd'⟩
          · obtain ⟨c, hc, hd⟩ := ihE cur es colors hlen hes' (by omega) hgray
            exact ⟨c, (dfsEdges_black hg1 hg0).trans hc, hd⟩

theorem detectCycles_go_false (g : Graph) (N : Nat) (hdst : ∀ n e, e ∈ g.edges.getD n [] → e.dst < N)
    (hacyc : ∀ n, ¬ Path g n n) :
    ∀ k i colors, colors.length = N → (∀ v, colors.getD v 0 ≠ 1) → i + k ≤ N →
      detectCycles.go g.edges N k i colors = false := by
  intro k
  induction k with
  | zero => intro _ _ _ _ _; rfl
  | succ k ih =>
    intro i colors hlen hng hik
    simp only [detectCycles.go]
    by_cases hw : colors.getD i 0 = 0
    · obtain ⟨c, hc, hd⟩ := (dfs_spec g N hdst hacyc _).1 i colors hlen (by omega) hw (wsum_fuel g.edges colors N)
        (fun v hv => absurd hv (hng v))
      rw [if_pos (by rw [hw]; rfl), hc]
      exact ih (i + 1) c (hd.len.trans hlen) (fun v hv => hng v ((hd.gray v).mp hv)) (by omega)
    · rw [if_neg (by simpa using hw)]
      exact ih (i + 1) colors hlen hng (by omega)

theorem detectCycles_false (g : Graph) (N : Nat) (hdst : ∀ n e, e ∈ g.edges.getD n [] → e.dst < N)
    (hacyc : ∀ n, ¬ Path g n n) : detectCycles g.edges N = false :=
  detectCycles_go_false g N hdst hacyc N 0 (List.replicate N 0) List.length_replicate
    (fun v hv => by rw [List.getD_replicate_self] at hv; cases hv) (Nat.le_of_eq (Nat.zero_add N))

theorem detectCycles_sound (g : Graph) (N : Nat)
    (hdst : ∀ n e, e ∈ g.edges.getD n [] → e.dst < N)
    (h : detectCycles g.edges N = true) : ∃ n, Path g n n :=
  Classical.byContradiction fun hno => by
    rw [detectCycles_false g N hdst fun n hp => hno ⟨n, hp⟩] at h
    cases h

/-- the hypotheses are satisfiable on a concrete 2-cycle `0 → 1 → 0` -/
example : ∃ n, Path { (default : Graph) with edges := [[⟨1, 0, 0⟩], [⟨0, 1, 0⟩]] } n n :=
  detectCycles_sound { (default : Graph) with edges := [[⟨1, 0, 0⟩], [⟨0, 1, 0⟩]] } 2
    (by
      intro n e he
      match n, he with
      | 0, he => simp at he; subst he; decide
      | 1, he => simp at he; subst he; decide
      | n + 2, he => simp at he)
    (by decide)

end KV

#print axioms KV.detectCycles_sound
