/-! List facts the proofs use and core does not name.

The models read lists with `getD` (a Go slice or map read with a zero value), update them with `set`, and grow
them and their association lists at the end (`l ++ [a]`); the lemmas below say what a read returns after each. -/

namespace List
variable {α : Type _} {β : Type _}

/-! ### `getD` -/

theorem getD_eq_getElem {l : List α} {i : Nat} (d : α) (h : i < l.length) : l.getD i d = l[i] :=
  (getElem_eq_getD d).symm

theorem getD_eq_default {l : List α} {i : Nat} (d : α) (h : l.length ≤ i) : l.getD i d = d := by
  rw [getD_eq_getElem?_getD, getElem?_eq_none h, Option.getD_none]

theorem getElem?_eq_some_getD {l : List α} {i : Nat} (d : α) (h : i < l.length) : l[i]? = some (l.getD i d) := by
  rw [getElem?_eq_getElem h, getD_eq_getElem d h]

theorem getD_of_getElem? {l : List α} {i : Nat} {a : α} (d : α) (h : l[i]? = some a) : l.getD i d = a := by
  rw [getD_eq_getElem?_getD, h, Option.getD_some]

theorem lt_length_of_getElem? {l : List α} {i : Nat} {a : α} (h : l[i]? = some a) : i < l.length :=
  (getElem?_eq_some_iff.mp h).1

theorem getD_forall {P : α → Prop} {l : List α} {d : α} (hd : P d) (h : ∀ a ∈ l, P a) (i : Nat) : P (l.getD i d) := by
  rw [getD_eq_getElem?_getD]
  cases hi : l[i]? with
  | none => exact hd
  | some a => exact h a (mem_of_getElem? hi)

theorem getD_mem_of_lt {l : List α} {i : Nat} (d : α) (h : i < l.length) : l.getD i d ∈ l := by
  rw [getD_eq_getElem d h]; exact getElem_mem h

theorem lt_length_of_mem_getD {l : List (List α)} {i : Nat} {a : α} (h : a ∈ l.getD i []) : i < l.length := by
  refine Nat.lt_of_not_le fun hc => ?_
  rw [getD_eq_default [] hc] at h
  cases h

theorem exists_mem_getD {α} {l : List (List α)} {a : α} : (∃ t, a ∈ l.getD t []) ↔ ∃ c ∈ l, a ∈ c := by
  constructor
  · rintro ⟨t, ht⟩
    exact ⟨_, getD_mem_of_lt [] (lt_length_of_mem_getD ht), ht⟩
  · rintro ⟨c, hc, ha⟩
    obtain ⟨i, hi, rfl⟩ := getElem_of_mem hc
    exact ⟨i, by rw [getD_eq_getElem _ hi]; exact ha⟩

theorem getD_set {l : List α} {i j : Nat} {a d : α} :
    (l.set i a).getD j d = if i = j ∧ i < l.length then a else l.getD j d := by
  simp only [getD_eq_getElem?_getD, getElem?_set]
  by_cases hij : i = j
  · subst hij
    by_cases hi : i < l.length
    · simp [hi]
    · simp [hi]
  · simp [hij]

theorem getD_set_self {l : List α} {i : Nat} (a d : α) (h : i < l.length) : (l.set i a).getD i d = a := by
  rw [getD_set, if_pos ⟨rfl, h⟩]

theorem getD_set_ne {l : List α} {i j : Nat} (a d : α) (h : i ≠ j) : (l.set i a).getD j d = l.getD j d := by
  rw [getD_set, if_neg fun hc => h hc.1]

theorem getD_replicate {n i : Nat} {a d : α} : (replicate n a).getD i d = if i < n then a else d := by
  simp only [getD_eq_getElem?_getD, getElem?_replicate]
  split <;> rfl

theorem getD_replicate_self {n i : Nat} {a : α} : (replicate n a).getD i a = a := by
  rw [getD_replicate, ite_self]

theorem getD_append_left {l r : List α} {i : Nat} (d : α) (h : i < l.length) : (l ++ r).getD i d = l.getD i d := by
  simp only [getD_eq_getElem?_getD, getElem?_append_left h]

theorem getD_append_right {l r : List α} {i : Nat} (d : α) (h : l.length ≤ i) :
    (l ++ r).getD i d = r.getD (i - l.length) d := by
  simp only [getD_eq_getElem?_getD, getElem?_append_right h]

theorem getD_concat_length {l : List α} {a : α} (d : α) : (l ++ [a]).getD l.length d = a := by
  rw [getD_append_right d (Nat.le_refl _), Nat.sub_self, getD_cons_zero]

theorem getD_map {l : List α} {i : Nat} {d : α} (f : α → β) : (l.map f).getD i (f d) = f (l.getD i d) := by
  simp only [getD_eq_getElem?_getD, getElem?_map]
  cases l[i]? <;> rfl

theorem getD_map_range {α} (f : Nat → α) (n i : Nat) (d : α) :
    ((List.range n).map f).getD i d = if i < n then f i else d := by
  split
  · rename_i h
    rw [List.getD_eq_getElem d (by simpa using h), List.getElem_map, List.getElem_range]
  · rename_i h
    exact List.getD_eq_default d (by simpa using h)

theorem getElem?_append_of_some {l : List α} {i : Nat} {a : α} (r : List α) (h : l[i]? = some a) :
    (l ++ r)[i]? = some a := by
  rw [getElem?_append_left (lt_length_of_getElem? h), h]

theorem getD_append_default (l : List α) (d : α) (m : Nat) : (l ++ [d]).getD m d = l.getD m d := by
  rcases Nat.lt_or_ge m l.length with h | h
  · exact getD_append_left d h
  · rw [getD_append_right d h, getD_eq_default d h]
    cases m - l.length <;> rfl

theorem getD_singleton_default (d : α) (n : Nat) : [d].getD n d = d := by
  cases n <;> rfl

theorem getElem?_concat_eq_some {l : List α} {a b : α} {k : Nat} :
    (l ++ [a])[k]? = some b ↔ l[k]? = some b ∨ (k = l.length ∧ b = a) := by
  rcases Nat.lt_trichotomy k l.length with h | rfl | h
  · rw [getElem?_append_left h]
    exact ⟨Or.inl, fun hc => hc.elim id fun hc => absurd hc.1 (Nat.ne_of_lt h)⟩
  · rw [getElem?_concat_length, getElem?_eq_none (Nat.le_refl _)]
    exact ⟨fun hc => Or.inr ⟨rfl, (Option.some.inj hc).symm⟩, fun hc => hc.elim nofun fun hc => by rw [hc.2]⟩
  · rw [getElem?_eq_none (by rw [length_append, length_singleton]; omega), getElem?_eq_none (Nat.le_of_lt h)]
    exact ⟨nofun, fun hc => hc.elim nofun fun hc => absurd hc.1 (Nat.ne_of_gt h)⟩

/-! ### association lists -/

theorem lookup_cons_ne {α β} [BEq α] [LawfulBEq α] {k k' : α} {v : β} {l : List (α × β)} (h : k ≠ k') :
    ((k', v) :: l).lookup k = l.lookup k := by
  rw [lookup_cons, beq_false_of_ne h]

theorem lookup_cons_eq_some {α β} [BEq α] [LawfulBEq α] {k k' : α} {v v' : β} {l : List (α × β)} :
    ((k', v') :: l).lookup k = some v ↔ (k = k' ∧ v' = v) ∨ (k ≠ k' ∧ l.lookup k = some v) := by
  by_cases h : k = k'
  · subst h; simp
  · rw [lookup_cons_ne h]; simp [h]

theorem lookup_cons_of_absent {α β} [BEq α] [LawfulBEq α] {l : List (α × β)} {k k' : α} {v v' : β}
    (hk' : l.lookup k' = none) (h : l.lookup k = some v) : ((k', v') :: l).lookup k = some v := by
  have hne : k ≠ k' := by intro e; rw [e, hk'] at h; cases h
  rw [lookup_cons_ne hne]; exact h

theorem lookup_flatMap {α κ β} [BEq κ] (f : α → List (κ × β)) (l : List α) (k : κ) :
    (l.flatMap f).lookup k = l.findSome? fun a => (f a).lookup k := by
  induction l with
  | nil => rfl
  | cons a l ih =>
    rw [flatMap_cons, lookup_append, findSome?_cons, ih]
    cases (f a).lookup k <;> rfl

theorem lookup_map_const {α β} [BEq α] [LawfulBEq α] (l : List α) (v : β) (k : α) :
    (l.map (·, v)).lookup k = if k ∈ l then some v else none := by
  induction l with
  | nil => rfl
  | cons a l ih =>
    rw [map_cons, lookup_cons, ih]
    by_cases h : k = a
    · rw [h, beq_self_eq_true, if_pos mem_cons_self]
    · simp only [beq_false_of_ne h, mem_cons, h, false_or]

/-! ### association lists grown at the end -/

theorem lookup_concat [BEq α] {l : List (α × β)} {k q : α} {v : β} :
    (l ++ [(k, v)]).lookup q = (l.lookup q).or (if q == k then some v else none) := by
  rw [lookup_append, lookup_cons, lookup_nil]
  cases q == k <;> rfl

theorem lookup_append_of_some [BEq α] {l : List (α × β)} {q : α} {x : β} (r : List (α × β))
    (h : l.lookup q = some x) : (l ++ r).lookup q = some x := by
  rw [lookup_append, h, Option.some_or]

/-- an entry behind a binding of its key is never found -/
theorem lookup_append_cons_of_some [BEq α] [LawfulBEq α] {l r : List (α × β)} {k q : α} {v x : β}
    (h : l.lookup k = some x) : (l ++ (k, v) :: r).lookup q = (l ++ r).lookup q := by
  rw [lookup_append, lookup_append, lookup_cons]
  split
  · rename_i heq
    rw [eq_of_beq heq, h]; rfl
  · rfl

theorem lookup_concat_self [BEq α] [ReflBEq α] {l : List (α × β)} {k : α} {v : β} (h : l.lookup k = none) :
    (l ++ [(k, v)]).lookup k = some v := by
  rw [lookup_concat, h, Option.none_or, if_pos BEq.rfl]

theorem lookup_concat_eq_some [BEq α] [LawfulBEq α] {l : List (α × β)} {k q : α} {v x : β} :
    (l ++ [(k, v)]).lookup q = some x ↔ l.lookup q = some x ∨ (l.lookup q = none ∧ q = k ∧ x = v) := by
  rw [lookup_concat]
  cases l.lookup q with
  | some y => simp
  | none =>
    by_cases hq : q = k
    · subst hq
      rw [if_pos BEq.rfl, Option.none_or]
      exact ⟨fun h => Or.inr ⟨rfl, rfl, (Option.some.inj h).symm⟩,
        fun h => h.elim nofun fun h => by rw [h.2.2]⟩
    · rw [if_neg (by simpa using hq), Option.or_none]
      exact ⟨nofun, fun h => h.elim nofun fun h => absurd h.2.1 hq⟩

theorem lookup_eq_none_iff_not_mem_keys [BEq α] [LawfulBEq α] {l : List (α × β)} {k : α} :
    l.lookup k = none ↔ k ∉ l.map (·.1) := by
  rw [lookup_eq_none_iff]
  constructor
  · intro h hk
    obtain ⟨p, hp, rfl⟩ := mem_map.mp hk
    exact bne_iff_ne.mp (h p hp) rfl
  · intro h p hp
    exact bne_iff_ne.mpr fun e => h (e ▸ mem_map_of_mem hp)

/-! ### splitting, indexing -/

theorem concat_eq_append_cons {α} {old pre post : List α} {n a : α} (h : old ++ [n] = pre ++ a :: post) :
    (∃ post', old = pre ++ a :: post') ∨ (pre = old ∧ a = n ∧ post = []) := by
  rcases eq_nil_or_concat post with rfl | ⟨post', x, rfl⟩
  · obtain ⟨h1, h2⟩ := append_inj' (t₂ := [a]) h rfl
    exact Or.inr ⟨h1.symm, (singleton_inj.mp h2).symm, rfl⟩
  · rw [concat_eq_append, ← cons_append, ← append_assoc] at h
    exact Or.inl ⟨post', (append_inj' h rfl).1⟩

theorem mem_zipIdx_add {α} {l : List α} {k i : Nat} {x : α} : (x, i) ∈ l.zipIdx k ↔ ∃ j, l[j]? = some x ∧ i = k + j := by
  rw [mem_zipIdx_iff_le_and_getElem?_sub]
  exact ⟨fun ⟨hle, h⟩ => ⟨i - k, h, (Nat.add_sub_cancel' hle).symm⟩,
    fun ⟨j, h, e⟩ => ⟨e ▸ Nat.le_add_right .., by rwa [e, Nat.add_sub_cancel_left]⟩⟩

theorem mem_filterMap_zipIdx {α β} {l : List α} {f : α × Nat → Option β} {b : β} :
    b ∈ l.zipIdx.filterMap f ↔ ∃ j a, l[j]? = some a ∧ f (a, j) = some b := by
  simp only [List.mem_filterMap, Prod.exists, List.mem_zipIdx_iff_getElem?]
  exact ⟨fun ⟨a, j, h1, h2⟩ => ⟨j, a, h1, h2⟩, fun ⟨j, a, h1, h2⟩ => ⟨a, j, h1, h2⟩⟩

theorem pairwise_zipIdx {α} {S : α × Nat → α × Nat → Prop} (l : List α) (i : Nat)
    (h : ∀ a b, a ∈ l.zipIdx i → b ∈ l.zipIdx i → a.2 < b.2 → S a b) : (l.zipIdx i).Pairwise S := by
  rw [List.pairwise_iff_getElem]
  intro a b ha hb hab
  exact h _ _ (List.getElem_mem ha) (List.getElem_mem hb)
    (by rw [List.getElem_zipIdx, List.getElem_zipIdx]; exact Nat.add_lt_add_left hab i)

/-- a Boolean function on lists with the equations of `all p` is `all p` -/
theorem eq_all_of_eqns {α} {p : α → Bool} {pL : List α → Bool} (hnil : pL [] = true)
    (hcons : ∀ a as, pL (a :: as) = (p a && pL as)) (l : List α) : pL l = l.all p := by
  induction l with
  | nil => exact hnil
  | cons a l ih => rw [hcons, ih, List.all_cons]

theorem any_take_eq_true {α} (l : List α) (n : Nat) (p : α → Bool) :
    (l.take n).any p = true ↔ ∃ j op, l[j]? = some op ∧ j < n ∧ p op = true := by
  rw [any_eq_true]
  constructor
  · rintro ⟨op, hm, hp⟩
    obtain ⟨j, hj, rfl⟩ := mem_take_iff_getElem.mp hm
    exact ⟨j, _, getElem?_eq_getElem (Nat.lt_min.mp hj).2, (Nat.lt_min.mp hj).1, hp⟩
  · rintro ⟨j, op, hj, hlt, hp⟩
    obtain ⟨hjl, rfl⟩ := getElem?_eq_some_iff.mp hj
    exact ⟨_, mem_take_iff_getElem.mpr ⟨j, Nat.lt_min.mpr ⟨hlt, hjl⟩, rfl⟩, hp⟩

/-! ### duplicate-free lists -/

theorem nodup_concat {l : List α} {a : α} : (l ++ [a]).Nodup ↔ l.Nodup ∧ a ∉ l := by
  rw [nodup_append]
  constructor
  · rintro ⟨h, _, hne⟩
    exact ⟨h, fun ha => hne a ha a (mem_singleton.mpr rfl) rfl⟩
  · rintro ⟨h, ha⟩
    refine ⟨h, pairwise_singleton _ a, ?_⟩
    intro x hx y hy hxy
    rw [mem_singleton.mp hy] at hxy
    exact ha (hxy ▸ hx)

/-- two elements neither of which may stand before the other stand at the same position -/
theorem Pairwise.eq_of_getElem? {R : α → α → Prop} {l : List α} (h : l.Pairwise R) {i j : Nat} {a b : α}
    (hi : l[i]? = some a) (hj : l[j]? = some b) (hab : ¬ R a b) (hba : ¬ R b a) : i = j := by
  obtain ⟨h1, rfl⟩ := getElem?_eq_some_iff.mp hi
  obtain ⟨h2, rfl⟩ := getElem?_eq_some_iff.mp hj
  rcases Nat.lt_trichotomy i j with hlt | heq | hlt
  · exact absurd (pairwise_iff_getElem.mp h i j h1 h2 hlt) hab
  · exact heq
  · exact absurd (pairwise_iff_getElem.mp h j i h2 h1 hlt) hba

theorem Nodup.eq_of_getElem? {α : Type _} {l : List α} (hnd : l.Nodup) {i j : Nat} {a : α}
    (hi : l[i]? = some a) (hj : l[j]? = some a) : i = j :=
  (List.getElem?_inj (List.lt_length_of_getElem? hi) hnd).mp (hi.trans hj.symm)

theorem eq_of_nodup_map {α β} (f : α → β) (l : List α) (h : (l.map f).Nodup) {a b : α}
    (ha : a ∈ l) (hb : b ∈ l) (e : f a = f b) : a = b := by
  have hp : l.Pairwise (fun a b => f a ≠ f b) := pairwise_map.1 h
  exact Pairwise.forall_of_forall_of_flip (R := fun a b => f a = f b → a = b) (fun _ _ _ => rfl)
    (hp.imp fun hne e => absurd e hne) (hp.imp fun hne e => absurd e.symm hne) ha hb e

/-- pigeonhole: `n` different values in `l` -/
theorem le_length_of_injOn {α : Type _} (f : Nat → α) {n : Nat} {l : List α}
    (hf : ∀ i j, i < n → j < n → f i = f j → i = j) (hl : ∀ i, i < n → f i ∈ l) : n ≤ l.length := by
  have hnd : ((range n).map f).Nodup :=
    pairwise_map.mpr (nodup_range.imp_of_mem fun hi hj hij e => hij (hf _ _ (mem_range.mp hi) (mem_range.mp hj) e))
  have := hnd.length_le_of_subset (l₂ := l) fun x hx => by
    obtain ⟨i, hi, rfl⟩ := mem_map.mp hx
    exact hl i (mem_range.mp hi)
  rwa [length_map, length_range] at this

/-- A search that tries the candidates `name c`, `name (c + 1)`, … and goes on only past one that is among `keys`
    (`hf`: the equations of `f`, read for the answer `none`) finds one within `keys.length + 1` tries, the candidates
    being different. -/
theorem search_ne_none {α β : Type _} {f : Nat → Nat → Option β} {name : Nat → α} {keys : List α}
    (hinj : ∀ a b, name a = name b → a = b)
    (hf : ∀ k c, f (k + 1) c = none → name c ∈ keys ∧ f k (c + 1) = none) (c : Nat) :
    f (keys.length + 1) c ≠ none := by
  have tried : ∀ fuel c, f fuel c = none → ∀ i, i < fuel → name (c + i) ∈ keys := by
    intro fuel
    induction fuel with
    | zero => exact fun _ _ i hi => absurd hi (Nat.not_lt_zero i)
    | succ k ih =>
      intro c h i hi
      cases i with
      | zero => exact (hf k c h).1
      | succ j => rw [Nat.add_succ, ← Nat.succ_add]; exact ih (c + 1) (hf k c h).2 j (Nat.lt_of_succ_lt_succ hi)
  exact fun h => Nat.not_succ_le_self keys.length
    (le_length_of_injOn (fun i => name (c + i)) (fun _ _ _ _ e => Nat.add_left_cancel (hinj _ _ e)) (tried _ c h))

/-! ### positions in a duplicate-free list -/

theorem Nodup.pairwise_idxOf_lt {α} [BEq α] [LawfulBEq α] {order : List α} (hnd : order.Nodup) :
    order.Pairwise (fun a b => order.idxOf a < order.idxOf b) := by
  rw [pairwise_iff_getElem]
  intro i j hi hj hij
  rw [hnd.idxOf_getElem i hi, hnd.idxOf_getElem j hj]
  exact hij

theorem Sublist.pairwise_idxOf_lt {α} [BEq α] [LawfulBEq α] {order l : List α} (hs : l.Sublist order) (hnd : order.Nodup) :
    l.Pairwise (fun a b => order.idxOf a < order.idxOf b) :=
  hnd.pairwise_idxOf_lt.sublist hs

theorem idxOf_lt_of_mem_pre {α} [BEq α] [LawfulBEq α] {order pre post : List α} {m n : α} (hnd : order.Nodup)
    (ho : order = pre ++ m :: post) (hn : n ∈ pre) : order.idxOf n < order.idxOf m := by
  have hp := hnd.pairwise_idxOf_lt
  rw [ho] at hp ⊢
  rw [pairwise_append] at hp
  exact hp.2.2 n hn m (mem_cons_self ..)

/-! ### folds -/

theorem foldl_prefix_induction {α β} (f : β → α → β) (P : List α → β → Prop) (l : List α) {b : β} (h0 : P [] b)
    (step : ∀ pre x post st, l = pre ++ x :: post → P pre st → P (pre ++ [x]) (f st x)) : P l (l.foldl f b) := by
  have key : ∀ (rest pre : List α) (st : β), l = pre ++ rest → P pre st → P l (rest.foldl f st) := by
    intro rest
    induction rest with
    | nil => intro pre st hl h; rw [hl, append_nil]; exact h
    | cons x xs ih =>
      intro pre st hl h
      exact ih (pre ++ [x]) _ (by rw [hl, append_assoc]; rfl) (step pre x xs st hl h)
  exact key l [] b rfl h0

theorem forall_mem_of_prefixes {α : Type _} {P : α → Prop} {l : List α}
    (h : ∀ pre a post, l = pre ++ a :: post → (∀ b ∈ pre, P b) → P a) : ∀ a ∈ l, P a := by
  have key : ∀ post pre, l = pre ++ post → (∀ b ∈ pre, P b) → ∀ a ∈ l, P a := by
    intro post
    induction post with
    | nil => intro pre hl hp; rw [hl, List.append_nil]; exact hp
    | cons a post ih =>
      intro pre hl hp
      refine ih (pre ++ [a]) (by rw [hl, List.append_assoc]; rfl) fun b hb => ?_
      rcases List.mem_append.mp hb with hb | hb
      · exact hp b hb
      · rw [List.mem_singleton.mp hb]; exact h pre a post hl hp
  exact key l [] rfl fun _ h => nomatch h

/-! ### sums -/

theorem sum_le_sum_of_getD_le {l₁ l₂ : List Nat} (h : ∀ i, l₁.getD i 0 ≤ l₂.getD i 0) :
    l₁.sum ≤ l₂.sum := by
  induction l₁ generalizing l₂ with
  | nil => exact Nat.zero_le _
  | cons a as ih =>
    have h0 := h 0
    cases l₂ with
    | nil =>
      have := ih (l₂ := []) fun i => h (i + 1)
      simp only [List.getD_cons_zero, List.getD_nil, List.sum_cons, List.sum_nil] at h0 this ⊢; omega
    | cons b bs =>
      have := ih (l₂ := bs) fun i => h (i + 1)
      simp only [List.getD_cons_zero, List.sum_cons] at h0 ⊢; omega


theorem foldl_add_length (l : List (List α)) (n : Nat) :
    l.foldl (fun a r => a + r.length) n = n + (l.map length).sum := by
  induction l generalizing n with
  | nil => rfl
  | cons x xs ih => rw [foldl_cons, ih, map_cons, sum_cons, Nat.add_assoc]

end List

theorem Option.mem_getD_nil {α} {o : Option (List α)} {a : α} : a ∈ o.getD [] ↔ ∃ l, o = some l ∧ a ∈ l := by
  cases o <;> simp

namespace KV

/-- the fuel measures of Kahn's loop (edges of unvisited nodes) and of the cycle search (white nodes and their edges) -/
def sumBelow (w : Nat → Nat) (p : Nat → Prop) [DecidablePred p] : Nat → Nat
  | 0 => 0
  | k + 1 => sumBelow w p k + if p k then w k else 0

section
variable {w : Nat → Nat} {p p' : Nat → Prop} [DecidablePred p] [DecidablePred p']

private theorem sumBelow_term_le {k : Nat} (h : p' k → p k) : (if p' k then w k else 0) ≤ if p k then w k else 0 := by
  split
  · rw [if_pos (h ‹_›)]; exact Nat.le_refl _
  · exact Nat.zero_le _

theorem sumBelow_mono : ∀ {k : Nat}, (∀ v, v < k → p' v → p v) → sumBelow w p' k ≤ sumBelow w p k
  | 0, _ => Nat.le_refl _
  | k + 1, h => Nat.add_le_add (sumBelow_mono fun v hv => h v (Nat.lt_succ_of_lt hv))
      (sumBelow_term_le (h k (Nat.lt_succ_self k)))

theorem sumBelow_remove {n : Nat} (hp : p n) (hp' : ¬ p' n) :
    ∀ {k : Nat}, (∀ v, v < k → p' v → p v) → n < k → sumBelow w p' k + w n ≤ sumBelow w p k
  | k + 1, h, hn => by
    have hk : ∀ v, v < k → p' v → p v := fun v hv => h v (Nat.lt_succ_of_lt hv)
    show sumBelow w p' k + (if p' k then w k else 0) + w n ≤ sumBelow w p k + (if p k then w k else 0)
    by_cases hnk : n = k
    · subst hnk
      rw [if_neg hp', if_pos hp]
      exact Nat.add_le_add_right (sumBelow_mono hk) _
    · rw [Nat.add_right_comm]
      exact Nat.add_le_add (sumBelow_remove hp hp' hk (Nat.lt_of_le_of_ne (Nat.le_of_lt_succ hn) hnk))
        (sumBelow_term_le (h k (Nat.lt_succ_self k)))

/-- the right-hand side has the shape of the model's fuels -/
theorem sumBelow_le_foldl {α} (l : List (List α)) (c : Nat) {k : Nat}
    (hw : ∀ v, v < k → w v ≤ c + (l.getD v []).length) :
    sumBelow w p k ≤ c * k + l.foldl (fun a r => a + r.length) 0 := by
  have hrow : ∀ j, ((l.take (j + 1)).map List.length).sum = ((l.take j).map List.length).sum + (l.getD j []).length := by
    intro j
    rw [List.take_add_one, List.map_append, List.sum_append, List.getD_eq_getElem?_getD]
    cases l[j]? <;> simp
  have h1 : ∀ j, j ≤ k → sumBelow w p j ≤ c * j + ((l.take j).map List.length).sum := by
    intro j
    induction j with
    | zero => intro _; exact Nat.zero_le _
    | succ j ih =>
      intro hj
      rw [sumBelow, hrow, Nat.mul_succ, Nat.add_add_add_comm]
      refine Nat.add_le_add (ih (Nat.le_of_succ_le hj)) ?_
      split
      · exact hw j hj
      · exact Nat.zero_le _
  have h2 : ((l.take k).map List.length).sum ≤ (l.map List.length).sum := by
    conv => rhs; rw [← List.take_append_drop k l, List.map_append, List.sum_append]
    exact Nat.le_add_right _ _
  rw [List.foldl_add_length, Nat.zero_add]
  exact Nat.le_trans (h1 k (Nat.le_refl k)) (Nat.add_le_add_left h2 _)

end

end KV

namespace List
variable {α : Type _}

/-! ### rank-sorted lists -/

variable {rank : α → Nat} {l : List α}

theorem rank_le_of_idx_le (hs : l.Pairwise (fun a b => rank a ≤ rank b)) {i j : Nat} {a b : α}
    (ha : l[i]? = some a) (hb : l[j]? = some b) (hij : i ≤ j) : rank a ≤ rank b := by
  obtain ⟨hi, rfl⟩ := getElem?_eq_some_iff.mp ha
  obtain ⟨hj, rfl⟩ := getElem?_eq_some_iff.mp hb
  rcases Nat.eq_or_lt_of_le hij with rfl | hlt
  · exact Nat.le_refl _
  · exact pairwise_iff_getElem.mp hs i j hi hj hlt

theorem idx_lt_of_rank_lt (hs : l.Pairwise (fun a b => rank a ≤ rank b)) {i j : Nat} {a b : α}
    (ha : l[i]? = some a) (hb : l[j]? = some b) (hr : rank a < rank b) : i < j :=
  Nat.lt_of_not_le fun hc => Nat.not_le_of_lt hr (rank_le_of_idx_le hs hb ha hc)

theorem exists_rank_le_of_idx_le (hs : l.Pairwise (fun a b => rank a ≤ rank b)) {i j : Nat} {b : α} (hb : l[j]? = some b) (hij : i ≤ j) :
    ∃ a, l[i]? = some a ∧ rank a ≤ rank b :=
  have hi : i < l.length := Nat.lt_of_le_of_lt hij (lt_length_of_getElem? hb)
  ⟨l[i], getElem?_eq_getElem hi, rank_le_of_idx_le hs (getElem?_eq_getElem hi) hb hij⟩

end List

/-- descent along a rank: if each `Q`-pair either gives `C` or has a `Q`-pair of smaller rank below it, any `Q`-pair
    gives `C` -/
theorem exists_of_rank_descent {α β : Type _} {Q : α → β → Prop} {C : Prop} (rank : β → Nat)
    (h : ∀ a b, Q a b → C ∨ ∃ a' b', Q a' b' ∧ rank b' < rank b) (hq : ∃ a b, Q a b) : C := by
  obtain ⟨a, b, hab⟩ := hq
  generalize hn : rank b = n
  induction n using Nat.strongRecOn generalizing a b with
  | _ n ih =>
    rcases h a b hab with hc | ⟨a', b', hab', hlt⟩
    · exact hc
    · exact ih _ (hn ▸ hlt) a' b' hab' rfl

/-! ### counters: a list of program counters read with `getD · 0`, one of which a step replaces by its successor -/
namespace KV.Threads

theorem getD_bump_self {s : List Nat} {t : Nat} (h : t < s.length) :
    (s.set t (s.getD t 0 + 1)).getD t 0 = s.getD t 0 + 1 :=
  List.getD_set_self _ _ h

theorem lt_getD_bump {s : List Nat} {t : Nat} (h : t < s.length) (u j : Nat) :
    j < (s.set t (s.getD t 0 + 1)).getD u 0 ↔ j < s.getD u 0 ∨ (u = t ∧ j = s.getD t 0) := by
  by_cases hu : u = t
  · subst hu; rw [getD_bump_self h]; omega
  · rw [List.getD_set_ne _ _ (Ne.symm hu)]; simp [hu]

theorem getD_le_bump (s : List Nat) (t u : Nat) : s.getD u 0 ≤ (s.set t (s.getD t 0 + 1)).getD u 0 := by
  rw [List.getD_set]
  split
  · rename_i h; rw [← h.1]; omega
  · exact Nat.le_refl _

theorem sum_bump {s : List Nat} {t : Nat} (h : t < s.length) :
    (s.set t (s.getD t 0 + 1)).sum = s.sum + 1 := by
  induction s generalizing t with
  | nil => cases h
  | cons a as ih =>
    cases t with
    | zero => simp only [List.set_cons_zero, List.sum_cons, List.getD_cons_zero]; omega
    | succ k =>
      have := ih (Nat.lt_of_succ_lt_succ h)
      simp only [List.set_cons_succ, List.sum_cons, List.getD_cons_succ, this]; omega

end KV.Threads
