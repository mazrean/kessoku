import KV.Calls
/-! # C02 — the value returned by the emitted program is the value wired by the graph

`KV.Calls` shows that the emitted program enters every provider node exactly once and returns the variable
`p.b.retParam`, result number `p.g.retIdx` of the `exit` of node `p.g.retNode`.  The micro-op semantics `T1` carries
no values, so here the contents of the variables are described symbolically (`VarVal`, Herbrand terms as in
`KV.Eval`): a parameter holds the caller's argument, and the `exit n rets` that follows `enter n args` stores in
`rets[gi]` the provider of `n` (result group `gi`) applied to the contents of `args`.  This reading is justified by
C01/C02 (`T1.WFData.singleWriter`, `C02_reads_written`): every variable has one writer and is read after it is
written, under every schedule. -/
namespace KV

/-- a variable is result number `gi` of at most one (node, group) pair: its parameter record names both -/
theorem nodeRets_inj {provs0 : List PSpec} {ret : Nat} {p : PlanOut} (h : plan provs0 ret = .ok p)
    {n n' gi gi' v : Nat} (h1 : (p.b.nodeRets.getD n [])[gi]? = some v)
    (h2 : (p.b.nodeRets.getD n' [])[gi']? = some v) : n = n' ∧ gi = gi' := by
  rw [(plan_all h).nodeRets] at h1 h2
  have e := Option.some.inj (((st1Of_rec p.g).ofRet n gi v h1).symm.trans ((st1Of_rec p.g).ofRet n' gi' v h2))
  exact ⟨congrArg Param.node e, congrArg Param.group e⟩

theorem enter_args_wired {provs0 : List PSpec} {ret : Nat} {p : PlanOut} (h : plan provs0 ret = .ok p)
    {t m : Nat} {args : List Nat} (hen : T1.Op.enter m args ∈ T1.thread (emitted p) t) :
    m ∈ topoOrder p.g ∧ args.length = (greqs p.g m).length ∧
    ∀ i a, args[i]? = some a → ∃ n e, n ∈ topoOrder p.g ∧
      posOf (topoOrder p.g) n < posOf (topoOrder p.g) m ∧ e ∈ p.g.edges.getD n [] ∧ e.dst = m ∧ e.slot = i ∧
      (p.b.nodeRets.getD n [])[e.src]? = some a := by
  have hp := plan_all h
  obtain ⟨hnd, rfl⟩ := enter_mem_emitted.mp hen
  have hmo := (hp.thread_node hnd).1
  have hml := hp.order_lt m hmo
  refine ⟨hmo, by rw [List.length_map, hp.nodeArgs_length hml, greqs_length hp.gwf.toGWF hml], ?_⟩
  intro i a hia
  rw [List.getElem?_map] at hia
  obtain ⟨ca, hca, rfl⟩ := Option.map_eq_some_iff.mp hia
  obtain ⟨n, e, hno, hpos, he, hed, hes, hv, _⟩ := hp.slot_source hmo hca
  exact ⟨n, e, hno, hpos, he, hed, hes, hv⟩

mutual
/-- `VarVal p v x`: after a complete run of the emitted program, variable `v` holds `x` -/
inductive VarVal (p : PlanOut) : Nat → Val → Prop
  /-- a parameter of the injector holds the caller's argument of its type -/
  | param {v : Nat} : (p.b.params.getD v default).isArg = true →
      VarVal p v (.arg (p.g.nodes.getD (p.b.params.getD v default).node default).ty)
  /-- `enter n args … exit n rets` in one thread: `rets[gi]` holds result group `gi` of the provider of `n`
      applied to the contents of `args` -/
  | call {n t gi v : Nat} {args rets : List Nat} {vs : List Val} :
      T1.Op.enter n args ∈ T1.thread (emitted p) t → T1.Op.exit n rets ∈ T1.thread (emitted p) t →
      VarVals p args vs → rets[gi]? = some v → VarVal p v (.app (p.g.nodes.getD n default).prov gi vs)
inductive VarVals (p : PlanOut) : List Nat → List Val → Prop
  | nil : VarVals p [] []
  | cons {a : Nat} {as : List Nat} {x : Val} {xs : List Val} :
      VarVal p a x → VarVals p as xs → VarVals p (a :: as) (x :: xs)
end

/-- the variables `as` are the ones the graph wires to slots `i, i+1, …` of node `m` -/
def WiredFrom (p : PlanOut) (m i : Nat) (as : List Nat) : Prop :=
  as.length + i = (greqs p.g m).length ∧
  ∀ k a, as[k]? = some a → ∃ n e, n ∈ topoOrder p.g ∧ e ∈ p.g.edges.getD n [] ∧ e.dst = m ∧ e.slot = i + k ∧
    (p.b.nodeRets.getD n [])[e.src]? = some a

theorem wiredFrom_tail {p : PlanOut} {m i a : Nat} {as : List Nat} (h : WiredFrom p m i (a :: as)) :
    WiredFrom p m (i + 1) as := by
  refine ⟨by have := h.1; simp only [List.length_cons] at this; omega, ?_⟩
  intro k b hb
  obtain ⟨n, e, h1, h2, h3, h4, h5⟩ := h.2 (k + 1) b (List.getElem?_cons_succ.trans hb)
  exact ⟨n, e, h1, h2, h3, by omega, h5⟩

/-- One induction over the two mutually defined content relations: each constructor of `VarVal` / `VarVals` is matched
    by the constructor of `NVal` / `NSlots` for the node that owns the variable. -/
theorem varVal_varVals_sound {provs0 : List PSpec} {ret : Nat} {p : PlanOut} (h : plan provs0 ret = .ok p) :
    (∀ {v : Nat} {x : Val}, VarVal p v x → ∀ n gi, n ∈ topoOrder p.g → (p.b.nodeRets.getD n [])[gi]? = some v →
      NVal p.g.nodes p.g.edges (greqs p.g) n gi x) ∧
    (∀ {as : List Nat} {xs : List Val}, VarVals p as xs → ∀ m i, WiredFrom p m i as →
      NSlots p.g.nodes p.g.edges (greqs p.g) m i xs) := by
  have hp := plan_all h
  let M1 (v : Nat) (x : Val) (_ : VarVal p v x) : Prop := ∀ n gi, n ∈ topoOrder p.g →
    (p.b.nodeRets.getD n [])[gi]? = some v → NVal p.g.nodes p.g.edges (greqs p.g) n gi x
  let M2 (as : List Nat) (xs : List Val) (_ : VarVals p as xs) : Prop :=
    ∀ m i, WiredFrom p m i as → NSlots p.g.nodes p.g.edges (greqs p.g) m i xs
  have param {v : Nat} (hpar : (p.b.params.getD v default).isArg = true) : M1 v _ (.param hpar) := by
    intro n gi hno hv
    -- a parameter is the one result variable of an argument node
    obtain ⟨_, hnode, hia⟩ := hp.rets_param (List.mem_of_getElem? hv)
    have hia : isArgNode p.g n = true := hia.symm.trans hpar
    have hgi : gi = 0 := by
      have := List.lt_length_of_getElem? hv
      rw [hp.rets_length hno, outCount, if_pos hia] at this
      omega
    rw [hnode, hgi]
    exact NVal.arg hia
  have call {n' t gi' v : Nat} {args rets : List Nat} {vs : List Val}
      (hen : T1.Op.enter n' args ∈ T1.thread (emitted p) t) (hex : T1.Op.exit n' rets ∈ T1.thread (emitted p) t)
      (hvs : VarVals p args vs) (hr : rets[gi']? = some v) (ih : M2 args vs hvs) : M1 v _ (.call hen hex hvs hr) := by
    intro n gi hno hv
    rw [(exit_mem_emitted.mp hex).2] at hr
    obtain ⟨rfl, rfl⟩ := nodeRets_inj h hv hr
    obtain ⟨_, hlen, hw⟩ := enter_args_wired h hen
    refine NVal.app (hp.thread_node (enter_mem_emitted.mp hen).1).2 (ih n 0 ⟨hlen, fun k a hka => ?_⟩)
    obtain ⟨n2, e, h1, _, h3, h4, h5, h6⟩ := hw k a hka
    exact ⟨n2, e, h1, h3, h4, by rw [h5, Nat.zero_add], h6⟩
  have nil : M2 [] [] .nil := fun m i hw => NSlots.done ((Nat.zero_add i).symm.trans hw.1)
  have cons {a : Nat} {as : List Nat} {x : Val} {xs : List Val} (hx : VarVal p a x) (hxs : VarVals p as xs)
      (ihx : M1 a x hx) (ihxs : M2 as xs hxs) : M2 _ _ (.cons hx hxs) := by
    intro m i hw
    obtain ⟨n, e, hno, he, hed, hes, hv⟩ := hw.2 0 a rfl
    have hil : i < (greqs p.g m).length := by
      have := hw.1; simp only [List.length_cons] at this; omega
    exact NSlots.slot hil he hed hes (ihx n e.src hno hv) (ihxs m (i + 1) (wiredFrom_tail hw))
  exact ⟨VarVal.rec (motive_1 := M1) (motive_2 := M2) param call nil cons,
    VarVals.rec (motive_1 := M1) (motive_2 := M2) param call nil cons⟩

/-- **The contents of result variable `gi` of node `n` is the value the graph wires out of `(n, gi)`.** -/
theorem varVal_sound {provs0 : List PSpec} {ret : Nat} {p : PlanOut} (h : plan provs0 ret = .ok p) :
    ∀ {v : Nat} {x : Val}, VarVal p v x → ∀ n gi, n ∈ topoOrder p.g → (p.b.nodeRets.getD n [])[gi]? = some v →
      NVal p.g.nodes p.g.edges (greqs p.g) n gi x :=
  (varVal_varVals_sound h).1

theorem varVals_sound {provs0 : List PSpec} {ret : Nat} {p : PlanOut} (h : plan provs0 ret = .ok p) :
    ∀ {as : List Nat} {xs : List Val}, VarVals p as xs → ∀ m i, WiredFrom p m i as →
      NSlots p.g.nodes p.g.edges (greqs p.g) m i xs :=
  (varVal_varVals_sound h).2

theorem varVals_exist {p : PlanOut} : ∀ (as : List Nat), (∀ a ∈ as, ∃ x, VarVal p a x) → ∃ xs, VarVals p as xs
  | [], _ => ⟨[], .nil⟩
  | a :: as, hall => by
    obtain ⟨x, hx⟩ := hall a (List.mem_cons_self ..)
    obtain ⟨xs, hxs⟩ := varVals_exist as (fun b hb => hall b (List.mem_cons_of_mem _ hb))
    exact ⟨x :: xs, .cons hx hxs⟩

theorem varVal_exists {provs0 : List PSpec} {ret : Nat} {p : PlanOut} (h : plan provs0 ret = .ok p) :
    ∀ (k n : Nat), posOf (topoOrder p.g) n = k → n ∈ topoOrder p.g → ∀ (gi v : Nat), (p.b.nodeRets.getD n [])[gi]? = some v →
      ∃ x, VarVal p v x := by
  intro k
  induction k using Nat.strongRecOn with
  | _ k ih =>
    intro n hk hno gi v hv
    have hp := plan_all h
    cases hia : isArgNode p.g n with
    | true => exact ⟨_, VarVal.param ((hp.rets_param (List.mem_of_getElem? hv)).2.2.trans hia)⟩
    | false =>
      -- a provider node is called in some thread; its arguments come from earlier nodes
      obtain ⟨t, hnd⟩ := hp.provider_thread hno hia
      have hen := enter_mem_emitted.mpr ⟨hnd, rfl⟩
      obtain ⟨_, _, hw⟩ := enter_args_wired h hen
      have hall : ∀ a ∈ (p.b.nodeArgs.getD n []).map (·.param), ∃ x, VarVal p a x := by
        intro a ha
        obtain ⟨i, hi⟩ := List.mem_iff_getElem?.mp ha
        obtain ⟨n2, e, hn2, hpos, _, _, _, hv2⟩ := hw i a hi
        exact ih _ (hk ▸ hpos) n2 rfl hn2 e.src a hv2
      obtain ⟨vs, hvs⟩ := varVals_exist _ hall
      exact ⟨_, VarVal.call hen (exit_mem_emitted.mpr ⟨hnd, rfl⟩) hvs hv⟩

/-- **The emitted program returns the value wired by the graph, which is the reference value.**  For an accepted
    declaration the returned variable `p.b.retParam` has exactly one symbolic content; it is the value `GraphVal`
    wires out of the return node, i.e. the (unique) reference evaluation of the requested type. -/
theorem returned_value {provs0 provs : List PSpec} {sup : SupMap} {ret : Nat} {p : PlanOut}
    (h : plan provs0 ret = .ok p) (hs : supplierMap provs0 = .ok (provs, sup)) :
    ∃ x, VarVal p p.b.retParam x ∧ GraphVal p.g x ∧ Eval provs sup ret x ∧
      ∀ x', VarVal p p.b.retParam x' → x' = x := by
  obtain ⟨_, _, hrv⟩ := ret_var_wired h
  have hmem := (plan_all h).retIn
  obtain ⟨x, hx⟩ := varVal_exists h _ p.g.retNode rfl hmem p.g.retIdx p.b.retParam hrv
  obtain ⟨v, hgv, hev, huniq, _⟩ := plan_value_spec h hs
  have hsound : ∀ x', VarVal p p.b.retParam x' → GraphVal p.g x' :=
    fun x' hx' => varVal_sound h hx' p.g.retNode p.g.retIdx hmem hrv
  have hxv : x = v := huniq x (hsound x hx)
  subst hxv
  exact ⟨x, hx, hgv, hev, fun x' hx' => huniq x' (hsound x' hx')⟩

/-- for `exDecl` and type 1 the emitted injector returns provider 0 applied to the caller's argument of type 2 -/
example : ∃ p, plan exDecl 1 = .ok p ∧ VarVal p p.b.retParam (.app 0 0 [.arg 2]) := by
  -- the plan itself is never computed: its value is the reference value
  obtain ⟨p, h⟩ := exDecl_accepted
  obtain ⟨x, hx, _, hev, _⟩ := returned_value h exDecl_sup
  have href : Eval exDecl [(1, (0, 0)), (3, (1, 0))] 1 (.app 0 0 [.arg 2]) :=
    Eval.app (p := 0) (gi := 0) rfl (EvalL.cons (Eval.arg rfl) EvalL.nil)
  exact ⟨p, h, eval_unique href hev ▸ hx⟩

end KV
#print axioms KV.nodeRets_inj
#print axioms KV.enter_args_wired
#print axioms KV.varVal_sound
#print axioms KV.returned_value
