import KV.Plan
import KV.ListLemmas
/-! Reads of the planner's tables after an update: `listModify l i f` models the Go statement
    `l[i] = f(l[i])` on a slice (nothing happens out of range); `isArgNode` names the test `Build` branches on;
    `SupOK` is what the BFS assumes of a supplier map; `RefuseExamples.errOf`/`isOk` read the outcome of the planner
    on a concrete declaration, so that the examples of refusal and acceptance are decided by evaluation. -/
namespace KV

theorem listModify_length {α} (l : List α) (i : Nat) (f : α → α) : (listModify l i f).length = l.length := by
  unfold listModify; split <;> simp

theorem getD_listModify {α} {l : List α} {i j : Nat} {f : α → α} {d : α} :
    (listModify l i f).getD j d = if i = j ∧ i < l.length then f (l.getD i d) else l.getD j d := by
  unfold listModify
  by_cases hi : i < l.length
  · rw [List.getElem?_eq_getElem hi, List.getD_set, List.getD_eq_getElem d hi]
  · rw [List.getElem?_eq_none (Nat.le_of_not_lt hi), if_neg fun h => hi h.2]

theorem getD_listModify_congr {α β} {l : List α} {i : Nat} {f : α → α} (π : α → β) (hf : ∀ a, π (f a) = π a)
    (j : Nat) (d : α) : π ((listModify l i f).getD j d) = π (l.getD j d) := by
  rw [getD_listModify]; split
  · rename_i h; rw [hf, h.1]
  · rfl

/-- row `q` after `l[p] = append(l[p], a)` for `p` in range -/
theorem mem_listModify_row {α} {l : List (List α)} {p : Nat} (hp : p < l.length) {q : Nat} {a b : α} :
    b ∈ (listModify l p (· ++ [a])).getD q [] ↔ b ∈ l.getD q [] ∨ (b = a ∧ q = p) := by
  rw [getD_listModify]
  split
  · rename_i h
    rw [h.1, List.mem_append, List.mem_singleton]
    exact or_congr_right ⟨fun hb => ⟨hb, rfl⟩, fun hc => hc.1⟩
  · rename_i h
    exact ⟨Or.inl, fun hb => hb.elim id fun hc => absurd ⟨hc.2.symm, hp⟩ h⟩

theorem getElem?_listModify_row {α} {l : List (List α)} {p : Nat} (hp : p < l.length) {q k : Nat} {a b : α} :
    ((listModify l p (· ++ [a])).getD q [])[k]? = some b ↔
      (l.getD q [])[k]? = some b ∨ (b = a ∧ q = p ∧ k = (l.getD p []).length) := by
  rw [getD_listModify]
  split
  · rename_i h
    rw [h.1, List.getElem?_concat_eq_some]
    exact or_congr_right ⟨fun hc => ⟨hc.2, rfl, hc.1⟩, fun hc => ⟨hc.2.2, hc.1⟩⟩
  · rename_i h
    exact ⟨Or.inl, fun hb => hb.elim id fun hc => absurd ⟨hc.2.1.symm, hp⟩ h⟩

def isArgNode (g : Graph) (n : Nat) : Bool := (g.nodes.getD n default).isArg

/-- what the BFS assumes of the supplier map: a supplier's result group exists -/
def SupOK (provs : List PSpec) (sup : SupMap) : Prop :=
  ∀ t p gi, sup.lookup t = some (p, gi) → gi < (provs.getD p default).provides.length

/-- so does the supplier: a read outside the list gives a provider without results -/
theorem SupOK.lt {provs : List PSpec} {sup : SupMap} (h : SupOK provs sup) {t p gi : Nat}
    (hl : sup.lookup t = some (p, gi)) : p < provs.length :=
  Nat.lt_of_not_le fun hp => by
    have := h t p gi hl
    rw [List.getD_eq_default _ hp] at this
    exact Nat.not_lt_zero _ this

/-! ### reading the outcome of the planner on a concrete declaration -/
namespace RefuseExamples

def errOf {α} : Except PlanErr α → Option PlanErr
  | .ok _ => none
  | .error e => some e

def isOk {α} : Except PlanErr α → Bool
  | .ok _ => true
  | .error _ => false

/-- acceptance of a concrete declaration is shown by evaluating `isOk` in the kernel; the result itself is not computed -/
theorem exists_ok_of_isOk {α} {x : Except PlanErr α} (h : isOk x = true) : ∃ a, x = .ok a := by
  cases x with
  | ok a => exact ⟨a, rfl⟩
  | error e => cases h

end RefuseExamples

end KV

theorem Except.map_eq_map {ε α β : Type} {f : α → β} {x y : Except ε α} (h : x.map f = y.map f) :
    (∃ e, x = .error e ∧ y = .error e) ∨ ∃ a b, x = .ok a ∧ y = .ok b ∧ f a = f b := by
  cases x <;> cases y <;> simp only [Except.map, Except.ok.injEq, Except.error.injEq, reduceCtorEq] at h
  · exact Or.inl ⟨_, rfl, by rw [h]⟩
  · exact Or.inr ⟨_, _, rfl, rfl, h⟩

