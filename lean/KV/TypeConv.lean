import KV.Imports
/-! # Model of `TypeConverter.TypeToExpr` (internal/migrate/typeconv.go)

`kessoku migrate` spells every type that appears as a type argument of the migrated declarations (`Inject[T]`,
`Bind[I]`, `Struct[T]`, …) from *type information*, not from the source text: `TypeToExpr` walks a `types.Type`,
asks `AddImport` for the local name of every foreign package it meets and builds an `ast.Expr`.

The model keeps the shape of both sides: a type / an expression is a tagged node with children.  Names are numbers:
`n < 16` are the predeclared identifiers (`int`, `string`, `error`, …), `n ≥ 16` the names of declared types.

Tied to the code by the `T` line of the driver (`harness`: the verif-tagged test driver of internal/migrate builds the
same `types.Type` with go/types, calls the real `TypeToExpr` and serialises the resulting `ast.Expr`). -/
namespace TConv
open Imp

/-- what `TypeToExpr` distinguishes in a `types.Type`, apart from the component types -/
inductive Tag where
  | basic (n : Nat)                    -- `*types.Basic`, and named types of the universe scope (`error`)
  | named (pkg : Nat) (name : Nat)     -- `*types.Named` / `*types.Alias` (children: the type arguments)
  | ptr
  | slice
  | arr (len : Nat)
  | map                                -- children: key, value
  | chan (dir : Nat)
  | func (nparams : Nat)               -- children: parameters, then results
  | variadic                           -- the last parameter `...T` of a variadic function (child: `T`)
  | struct (fields : List (Nat × Bool))   -- (field name, embedded?); children: the field types
  | ifaceEmpty
  | ifaceLit                           -- a non-empty interface literal (methods are not modelled)
deriving DecidableEq, Repr

inductive Ty where
  | node (tag : Tag) (kids : List Ty)
deriving Repr

/-- what the produced `ast.Expr` looks like -/
inductive ETag where
  | ident (n : Nat)                    -- `ast.NewIdent(name)`
  | sel (q : String) (name : Nat)      -- `q.Name`
  | star
  | slice
  | arr (len : Nat)
  | map
  | chan (dir : Nat)
  | func (nparams : Nat)
  | ellipsis
  | struct (fields : List (Nat × Bool))
  | ifaceEmpty
deriving DecidableEq, Repr

inductive Ex where
  | node (tag : ETag) (kids : List Ex)  -- for `ident` / `sel`: non-empty children = `X[children]`
deriving Repr

/-- the identifier `any` (a predeclared name) -/
def anyName : Nat := 5

/-- one node: the only stateful case is a named type of another package -/
def renderTag (cur : Option Nat) (pname : Nat → String) (tc : TC) : Tag → Option (TC × ETag)
  | .basic n => some (tc, .ident n)
  | .named p name =>
    match cur with
    | none => some (tc, .ident name)                    -- no current package: nothing is qualified
    | some c =>
      if p = c then some (tc, .ident name)
      else match addImport tc p (pname p) with
        | none => none
        | some (tc', q) => some (tc', .sel q name)
  | .ptr => some (tc, .star)
  | .slice => some (tc, .slice)
  | .arr n => some (tc, .arr n)
  | .map => some (tc, .map)
  | .chan d => some (tc, .chan d)
  | .func n => some (tc, .func n)
  | .variadic => some (tc, .ellipsis)
  | .struct fs => some (tc, .struct fs)
  | .ifaceEmpty => some (tc, .ifaceEmpty)
  | .ifaceLit => some (tc, .ident anyName)              -- `return ast.NewIdent("any")`: lossy, see `render_iface_lossy`

mutual
/-- `TypeToExpr`: the node first (its package is imported before those of its type arguments), then the children
    from left to right -/
def render (cur : Option Nat) (pname : Nat → String) : TC → Ty → Option (TC × Ex)
  | tc, .node tag kids =>
    match renderTag cur pname tc tag with
    | none => none
    | some (tc1, etag) =>
      match renderList cur pname tc1 kids with
      | none => none
      | some (tc2, es) => some (tc2, .node etag es)
def renderList (cur : Option Nat) (pname : Nat → String) : TC → List Ty → Option (TC × List Ex)
  | tc, [] => some (tc, [])
  | tc, t :: ts =>
    match render cur pname tc t with
    | none => none
    | some (tc1, e) =>
      match renderList cur pname tc1 ts with
      | none => none
      | some (tc2, es) => some (tc2, e :: es)
end

/-- what an expression denotes in the output file: an unqualified identifier is a predeclared name or a type of the
    package the file is written for; a qualifier is looked up in the file's import table -/
def resolveTag (cur : Option Nat) (tc : TC) : ETag → Option Tag
  | .ident n => if n < 16 then some (.basic n) else cur.map (fun c => .named c n)
  | .sel q name => (tc.used.lookup q).map (fun p => .named p name)
  | .star => some .ptr
  | .slice => some .slice
  | .arr n => some (.arr n)
  | .map => some .map
  | .chan d => some (.chan d)
  | .func n => some (.func n)
  | .ellipsis => some .variadic
  | .struct fs => some (.struct fs)
  | .ifaceEmpty => some .ifaceEmpty

mutual
def resolve (cur : Option Nat) (tc : TC) : Ex → Option Ty
  | .node etag es =>
    match resolveTag cur tc etag with
    | none => none
    | some tag =>
      match resolveList cur tc es with
      | none => none
      | some ts => some (.node tag ts)
def resolveList (cur : Option Nat) (tc : TC) : List Ex → Option (List Ty)
  | [] => some []
  | e :: es =>
    match resolve cur tc e with
    | none => none
    | some t =>
      match resolveList cur tc es with
      | none => none
      | some ts => some (t :: ts)
end

mutual
/-- the qualifiers an expression mentions -/
def quals : Ex → List String
  | .node (.sel q _) es => q :: qualsList es
  | .node _ es => qualsList es
def qualsList : List Ex → List String
  | [] => []
  | e :: es => quals e ++ qualsList es
end

mutual
/-- the types `TypeToExpr` can spell faithfully for a file of package `c`: predeclared names are `< 16`, the names of
    declared types `≥ 16` (a package that declares its own `error` or `string` is outside), and there is no non-empty
    interface literal -/
def WF : Ty → Bool
  | .node tag kids =>
    (match tag with
     | .basic n => decide (n < 16)
     | .named _ name => decide (16 ≤ name)
     | .ifaceLit => false
     | _ => true) && WFList kids
def WFList : List Ty → Bool
  | [] => true
  | t :: ts => WF t && WFList ts
end

/-! ## printing (driver protocol) -/

def basicNames : List String := ["int", "string", "bool", "float64", "error", "any", "byte", "uint8",
  "int8", "int64", "uint", "float32", "complex128", "uintptr", "rune", "uint16"]

def nameStr (n : Nat) : String := if n < 16 then basicNames.getD n ("B" ++ toString n) else "N" ++ toString (n - 16)

def fieldStr (f : Nat × Bool) (s : String) : String := if f.2 then "~" ++ s else "F" ++ toString f.1 ++ " " ++ s

def zipFields : List (Nat × Bool) → List String → List String
  | f :: fs, s :: ss => fieldStr f s :: zipFields fs ss
  | _, _ => []

mutual
def exStr : Ex → String
  | .node tag es =>
    let ks := exStrs es
    match tag with
    | .ident n => nameStr n ++ (if ks.isEmpty then "" else "[" ++ ",".intercalate ks ++ "]")
    | .sel q n => q ++ "." ++ nameStr n ++ (if ks.isEmpty then "" else "[" ++ ",".intercalate ks ++ "]")
    | .star => "*" ++ "".intercalate ks
    | .slice => "[]" ++ "".intercalate ks
    | .arr n => "[" ++ toString n ++ "]" ++ "".intercalate ks
    | .map => "map[" ++ ks.getD 0 "?" ++ "]" ++ ks.getD 1 "?"
    | .chan d => "chan" ++ toString d ++ "(" ++ "".intercalate ks ++ ")"
    | .func n => "func(" ++ ",".intercalate (ks.take n) ++ ";" ++ ",".intercalate (ks.drop n) ++ ")"
    | .ellipsis => "..." ++ "".intercalate ks
    | .struct fs => "struct{" ++ ";".intercalate (zipFields fs ks) ++ "}"
    | .ifaceEmpty => "interface{}"
def exStrs : List Ex → List String
  | [] => []
  | e :: es => exStr e :: exStrs es
end

end TConv
