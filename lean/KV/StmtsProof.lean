import KV.Stmts
import KV.Pass1
/-! `buildStmts` (graph.go) decides which pools make up the main thread and which become goroutines.
    `stmtFacts_of_buildStmts2`: over the pools of `Build` the main thread is exactly one pool, every other non-empty
    pool becomes exactly one goroutine, and nothing is left out. -/
namespace KV

/-- what `buildStmts` delivers (`stmtFacts_of_buildStmts2`, the last theorem of this file): the main thread is one
    pool, the goroutines are other pools, all different, and every pool member is emitted -/
structure StmtFacts (g : Graph) (pools : List (List Nat)) (parent : List Nat) (chains : List (List Nat)) : Prop where
  cover : ∀ p n, n ∈ pools.getD p [] → n ∈ parent ∨ ∃ c ∈ chains, n ∈ c
  idx : ∃ pi cis, parent = pools.getD pi [] ∧ chains = cis.map (pools.getD · []) ∧ (pi :: cis).Nodup

/-- thread `t` runs pool `f t`; a thread that does not exist gets the index `pools.length`, the pool that does not
    exist, so `f` is total, and it is injective on the threads that run something -/
theorem StmtFacts.thread_pool {g : Graph} {pools : List (List Nat)} {parent : List Nat} {chains : List (List Nat)}
    (h : StmtFacts g pools parent chains) :
    ∃ f : Nat → Nat, (∀ t, (parent :: chains).getD t [] = pools.getD (f t) []) ∧
      ∀ t t', (parent :: chains).getD t [] ≠ [] → (parent :: chains).getD t' [] ≠ [] → f t = f t' → t = t' := by
  obtain ⟨pi, cis, rfl, rfl, hnd⟩ := h.idx
  have hf : ∀ t, (pools.getD pi [] :: cis.map (pools.getD · [])).getD t [] =
      pools.getD ((pi :: cis).getD t pools.length) [] := fun t => by
    rw [← List.getD_map (pools.getD · []), List.getD_eq_default [] (Nat.le_refl pools.length)]; rfl
  have hlt : ∀ t, (pools.getD pi [] :: cis.map (pools.getD · [])).getD t [] ≠ [] → t < (pi :: cis).length :=
    fun t ht => Nat.lt_of_not_le fun hc => ht (by
      rw [hf, List.getD_eq_default _ hc, List.getD_eq_default [] (Nat.le_refl _)])
  refine ⟨fun t => (pi :: cis).getD t pools.length, hf, fun t t' ht ht' e => ?_⟩
  simp only [List.getD_eq_getElem _ (hlt t ht), List.getD_eq_getElem _ (hlt t' ht')] at e
  exact (List.getElem?_inj (hlt t ht) hnd).mp
    (by rw [List.getElem?_eq_getElem (hlt t ht), List.getElem?_eq_getElem (hlt t' ht'), e])

structure PoolFacts (g : Graph) (order : List Nat) (pools : List (List Nat)) : Prop where
  nodup : order.Nodup
  lt : ∀ m ∈ order, m < g.nodes.length
  sub : ∀ i, (pools.getD i []).Sublist order
  closed : DepsClosed g order
  placed : 0 < pools.length → ∀ n ∈ order, isArgNode g n = false → ∃ q, q < pools.length ∧ n ∈ pools.getD q []
  syncInit : ∀ i, i < pools.length → pools.getD i [] ≠ [] → isAsyncNode g (firstOf pools i) = false →
    isInitial g pools i = true

/-- the emission state is consistent (whatever has been visited so far) -/
structure RInv0 (g : Graph) (pools : List (List Nat)) (pidx : Nat) (st : RSt) : Prop where
  visLt : ∀ v ∈ st.visited, v < pools.length
  visNodup : st.visited.Nodup
  split : ∀ v, v ∈ st.visited ↔ (v ∈ st.parentIdx ∨ v ∈ st.chainIdx)
  procArgs : ∀ d, d < g.nodes.length → isArgNode g d = true → d ∈ st.processed
  procPools : ∀ v ∈ st.visited, ∀ d ∈ pools.getD v [], d ∈ st.processed
  parentOne : st.parentIdx = [pidx]
  chainOK : (pidx :: st.chainIdx).Nodup

/-- the invariant of the rounds: moreover every initial pool has been visited -/
structure RInv (g : Graph) (pools : List (List Nat)) (pidx : Nat) (st : RSt) : Prop
    extends RInv0 g pools pidx st where
  initVisited : ∀ i, i < pools.length → isInitial g pools i = true → i ∈ st.visited

theorem RInv0.visitChain {g : Graph} {pools : List (List Nat)} {pidx : Nat} {st : RSt} (h : RInv0 g pools pidx st)
    {i : Nat} (hi : i < pools.length) (hnv : i ∉ st.visited) (pr : Bool) :
    RInv0 g pools pidx { st with visited := st.visited ++ [i], processed := st.processed ++ pools.getD i [],
                                 chainIdx := st.chainIdx ++ [i], progress := pr } where
  visLt := fun v hv => (List.mem_append.mp hv).elim (h.visLt v) fun hv => List.mem_singleton.mp hv ▸ hi
  visNodup := List.nodup_concat.mpr ⟨h.visNodup, hnv⟩
  split := fun v => by simp only [List.mem_append, List.mem_singleton, h.split v, or_assoc]
  procArgs := fun d hd hda => List.mem_append_left _ (h.procArgs d hd hda)
  procPools := fun v hv d hd => (List.mem_append.mp hv).elim
    (fun hv => List.mem_append_left _ (h.procPools v hv d hd))
    (fun hv => List.mem_append_right _ (List.mem_singleton.mp hv ▸ hd))
  parentOne := h.parentOne
  chainOK := by
    -- `i` is not visited, so it is neither the main thread's pool nor a goroutine yet
    have hic : i ∉ pidx :: st.chainIdx := fun hm => hnv ((h.split i).mpr (by
      rw [h.parentOne, List.mem_singleton]; exact List.mem_cons.mp hm))
    exact List.nodup_concat (l := pidx :: st.chainIdx).mpr ⟨h.chainOK, hic⟩

theorem roundStep_cases (g : Graph) (pools : List (List Nat)) (st : RSt) (i : Nat) :
    (roundStep g pools st i = st ∧
      (i ∈ st.visited ∨ pools.getD i [] = [] ∨ depsIn g (firstOf pools i) st.processed = false)) ∨
    ((i ∉ st.visited ∧ pools.getD i [] ≠ []) ∧
      ((isAsyncNode g (firstOf pools i) = true ∧ roundStep g pools st i =
          { st with visited := st.visited ++ [i], processed := st.processed ++ pools.getD i [],
                    chainIdx := st.chainIdx ++ [i], progress := true }) ∨
       (isAsyncNode g (firstOf pools i) = false ∧ roundStep g pools st i =
          { st with visited := st.visited ++ [i], processed := st.processed ++ pools.getD i [],
                    parentIdx := st.parentIdx ++ [i], progress := true }))) := by
  unfold roundStep
  split
  · rename_i hc
    rw [Bool.or_eq_true, List.contains_iff_mem, List.isEmpty_iff] at hc
    exact Or.inl ⟨rfl, hc.imp_right Or.inl⟩
  · rename_i hc
    rw [Bool.or_eq_true, List.contains_iff_mem, List.isEmpty_iff, not_or] at hc
    split
    · refine Or.inr ⟨hc, ?_⟩
      split
      · exact Or.inl ⟨‹_›, rfl⟩
      · exact Or.inr ⟨Bool.eq_false_iff.mpr ‹_›, rfl⟩
    · exact Or.inl ⟨rfl, Or.inr (Or.inr (Bool.eq_false_iff.mpr ‹_›))⟩

theorem roundStep_inv {g : Graph} {order : List Nat} {pools : List (List Nat)} {pidx : Nat}
    (hp : PoolFacts g order pools) {st : RSt} (h : RInv g pools pidx st) (i : Nat) (hi : i < pools.length) :
    RInv g pools pidx (roundStep g pools st i) := by
  rcases roundStep_cases g pools st i with ⟨he, _⟩ | ⟨⟨hnv, hne⟩, ⟨_, he⟩ | ⟨hs, _⟩⟩
  · rw [he]; exact h
  · -- async first node: becomes a goroutine
    rw [he]
    exact { toRInv0 := h.toRInv0.visitChain hi hnv true,
            initVisited := fun j hj hjI => List.mem_append_left _ (h.initVisited j hj hjI) }
  · -- sync first node: impossible, such a pool is initial hence already visited
    exact absurd (h.initVisited i hi (hp.syncInit i hi hne hs)) hnv

theorem round_inv {g : Graph} {order : List Nat} {pools : List (List Nat)} {pidx : Nat}
    (hp : PoolFacts g order pools) {st : RSt} (h : RInv g pools pidx st) :
    RInv g pools pidx (round g pools st) :=
  -- the invariant does not read `progress`, which the round resets first
  List.foldlRecOn (motive := RInv g pools pidx) _ _ { h with }
    fun _ h i hi => roundStep_inv hp h i (List.mem_range.mp hi)

/-! ### the initial fold -/

theorem initStep_inv {g : Graph} {pools : List (List Nat)} {pidx : Nat} {st : RSt}
    (h : RInv0 g pools pidx st) (i : Nat) (hi : i < pools.length) :
    RInv0 g pools pidx (initStep pools st i) ∧ (∀ v ∈ st.visited, v ∈ (initStep pools st i).visited) ∧
      i ∈ (initStep pools st i).visited := by
  unfold initStep
  split
  · rename_i hc
    exact ⟨h, fun v hv => hv, by simpa using hc⟩
  · rename_i hc
    exact ⟨h.visitChain hi (by simpa using hc) st.progress, fun v hv => List.mem_append_left _ hv, by simp⟩

theorem isInitial_nonempty {g : Graph} {pools : List (List Nat)} {i : Nat} (h : isInitial g pools i = true) :
    pools.getD i [] ≠ [] := by
  intro he
  simp only [isInitial, he, List.isEmpty_nil, Bool.not_true, Bool.false_and] at h
  cases h

theorem mem_argNodesOf {g : Graph} {d : Nat} (hd : d < g.nodes.length) (ha : isArgNode g d = true) :
    d ∈ argNodesOf g := by
  simp only [argNodesOf, List.mem_filter, List.mem_range]
  exact ⟨hd, ha⟩

theorem isInitial_of_args {g : Graph} {pools : List (List Nat)} {i : Nat} (hne : pools.getD i [] ≠ [])
    (h : ∀ d ∈ g.rev.getD (firstOf pools i) [], d < g.nodes.length ∧ isArgNode g d = true) :
    isInitial g pools i = true := by
  simp only [isInitial, Bool.and_eq_true, Bool.not_eq_true', List.isEmpty_eq_false_iff, depsIn, List.all_eq_true,
    List.contains_iff_mem]
  exact ⟨hne, fun d hd => mem_argNodesOf (h d hd).1 (h d hd).2⟩

/-- the state `stmtsState` starts from: pool `pidx` opens the main thread -/
abbrev rInit (g : Graph) (pools : List (List Nat)) (pidx : Nat) : RSt :=
  { visited := [pidx], processed := argNodesOf g ++ pools.getD pidx [], chainIdx := [], parentIdx := [pidx],
    progress := false }

theorem init_state_inv {g : Graph} {pools : List (List Nat)} (pidx : Nat)
    (hpi : pidx ∈ (List.range pools.length).filter (isInitial g pools)) :
    RInv g pools pidx (((List.range pools.length).filter (isInitial g pools)).foldl (initStep pools)
      (rInit g pools pidx)) := by
  have hmemI : ∀ i ∈ (List.range pools.length).filter (isInitial g pools),
      i < pools.length ∧ isInitial g pools i = true := by
    intro i hi; simpa using hi
  have h0 : RInv0 g pools pidx (rInit g pools pidx) := {
    visLt := by
      intro v hv; simp at hv; subst hv
      exact (hmemI _ hpi).1
    visNodup := by simp
    split := by intro v; simp
    procArgs := fun d hd ha => List.mem_append_left _ (mem_argNodesOf hd ha)
    procPools := by
      intro v hv d hd; simp at hv; subst hv
      exact List.mem_append_right _ hd
    parentOne := rfl
    chainOK := by simp }
  obtain ⟨h1, hall⟩ := List.foldl_prefix_induction (initStep pools)
    (fun pre st => RInv0 g pools pidx st ∧ ∀ i ∈ pre, i ∈ st.visited)
    ((List.range pools.length).filter (isInitial g pools)) ⟨h0, fun _ hi => nomatch hi⟩
    (fun pre x post st hsplit ⟨h, hall⟩ => by
      have hx := hmemI x (by rw [hsplit]; simp)
      obtain ⟨h1, hmono, hxin⟩ := initStep_inv h x hx.1
      exact ⟨h1, fun i hi => (List.mem_append.mp hi).elim (fun hi => hmono i (hall i hi))
        (fun hi => List.mem_singleton.mp hi ▸ hxin)⟩)
  exact { toRInv0 := h1, initVisited := fun i hi hI => hall i (by simpa using ⟨hi, hI⟩) }

/-! ### completeness: every non-empty pool is eventually emitted -/

theorem foldl_roundStep_cases (g : Graph) (pools : List (List Nat)) (l : List Nat) (st : RSt) :
    (l.foldl (roundStep g pools) st = st ∧
      ∀ i ∈ l, (i ∈ st.visited ∨ pools.getD i [] = [] ∨ depsIn g (firstOf pools i) st.processed = false)) ∨
    ((l.foldl (roundStep g pools) st).progress = true ∧
      st.visited.length < (l.foldl (roundStep g pools) st).visited.length) := by
  induction l generalizing st with
  | nil => exact Or.inl ⟨rfl, fun _ hi => nomatch hi⟩
  | cons x xs ih =>
    rw [List.foldl_cons]
    rcases roundStep_cases g pools st x with ⟨he, hx⟩ | ⟨_, hvis⟩
    · rw [he]
      exact (ih st).imp_left fun ⟨h1, h2⟩ => ⟨h1, List.forall_mem_cons.mpr ⟨hx, h2⟩⟩
    · have hp : (roundStep g pools st x).progress = true ∧
          (roundStep g pools st x).visited = st.visited ++ [x] := by
        rcases hvis with ⟨_, he⟩ | ⟨_, he⟩ <;> rw [he] <;> exact ⟨rfl, rfl⟩
      have hlen : st.visited.length < (roundStep g pools st x).visited.length := by rw [hp.2]; simp
      rcases ih (roundStep g pools st x) with ⟨h1, _⟩ | ⟨h1, h2⟩
      · rw [h1]; exact Or.inr ⟨hp.1, hlen⟩
      · exact Or.inr ⟨h1, Nat.lt_trans hlen h2⟩

theorem firstOf_cons {pools : List (List Nat)} {i : Nat} (h : pools.getD i [] ≠ []) :
    ∃ rest, pools.getD i [] = firstOf pools i :: rest := by
  unfold firstOf
  cases hp : pools.getD i [] with
  | nil => exact absurd hp h
  | cons x xs => exact ⟨xs, rfl⟩

theorem firstOf_mem {pools : List (List Nat)} {i : Nat} (h : pools.getD i [] ≠ []) :
    firstOf pools i ∈ pools.getD i [] := by
  obtain ⟨rest, hr⟩ := firstOf_cons h
  rw [hr]; exact List.mem_cons_self ..

theorem idxOf_firstOf_le {order : List Nat} {pools : List (List Nat)} {q d : Nat} (hnd : order.Nodup)
    (hsub : (pools.getD q []).Sublist order) (hd : d ∈ pools.getD q []) :
    order.idxOf (firstOf pools q) ≤ order.idxOf d := by
  obtain ⟨rest, hcons⟩ := firstOf_cons (List.ne_nil_of_mem hd)
  have hpw := hsub.pairwise_idxOf_lt hnd
  rw [hcons] at hd hpw
  rcases List.mem_cons.mp hd with rfl | hdt
  · exact Nat.le_refl _
  · exact Nat.le_of_lt ((List.pairwise_cons.mp hpw).1 d hdt)

/-- a pool that is not ready when the nodes `s` are processed waits for a node outside `s` whose pool starts earlier -/
theorem unready_waits_for_earlier {g : Graph} {order : List Nat} {pools : List (List Nat)}
    (hp : PoolFacts g order pools) {s : List Nat} (hs : ∀ d, d < g.nodes.length → isArgNode g d = true → d ∈ s)
    {i : Nat} (hi : i < pools.length) (hne : pools.getD i [] ≠ []) (hd : depsIn g (firstOf pools i) s = false) :
    ∃ q d, q < pools.length ∧ d ∈ pools.getD q [] ∧ d ∉ s ∧
      order.idxOf (firstOf pools q) < order.idxOf (firstOf pools i) := by
  simp only [depsIn, List.all_eq_false, List.contains_iff_mem] at hd
  obtain ⟨d, hdrev, hdns⟩ := hd
  obtain ⟨pre, post, hsplit⟩ := List.append_of_mem ((hp.sub i).subset (firstOf_mem hne))
  have hdpre : d ∈ pre := hp.closed pre _ post hsplit d hdrev
  have hdo : d ∈ order := by rw [hsplit]; exact List.mem_append_left _ hdpre
  -- `d` is no argument node, those are in `s`; so it sits in a pool
  have hda : isArgNode g d = false := Bool.eq_false_iff.mpr fun hda => hdns (hs d (hp.lt d hdo) hda)
  obtain ⟨q, hq, hdq⟩ := hp.placed (Nat.zero_lt_of_lt hi) d hdo hda
  exact ⟨q, d, hq, hdq, hdns,
    Nat.lt_of_le_of_lt (idxOf_firstOf_le hp.nodup (hp.sub q) hdq) (List.idxOf_lt_of_mem_pre hp.nodup hsplit hdpre)⟩

/-- while the nodes `s` are processed, among them those of the pools `v`: from a non-empty pool outside `v`, following
    what an unready pool waits for, one comes to a ready pool outside `v` -/
theorem exists_ready {g : Graph} {order : List Nat} {pools : List (List Nat)} (hp : PoolFacts g order pools)
    {s v : List Nat} (hs : ∀ d, d < g.nodes.length → isArgNode g d = true → d ∈ s)
    (hv : ∀ q ∈ v, ∀ d ∈ pools.getD q [], d ∈ s) {i : Nat} (hi : i < pools.length) (hne : pools.getD i [] ≠ [])
    (hiv : i ∉ v) :
    ∃ q, q < pools.length ∧ pools.getD q [] ≠ [] ∧ q ∉ v ∧ depsIn g (firstOf pools q) s = true := by
  generalize hip : order.idxOf (firstOf pools i) = p
  induction p using Nat.strongRecOn generalizing i with
  | _ p ih =>
    cases hd : depsIn g (firstOf pools i) s with
    | true => exact ⟨i, hi, hne, hiv, hd⟩
    | false =>
      obtain ⟨q, d, hq, hdq, hds, hlt⟩ := unready_waits_for_earlier hp hs hi hne hd
      exact ih _ (hip ▸ hlt) hq (List.ne_nil_of_mem hdq) (fun hqv => hds (hv q hqv d hdq)) rfl

/-- a state in which no unvisited non-empty pool is ready has no unvisited non-empty pool at all -/
theorem stuck_complete {g : Graph} {order : List Nat} {pools : List (List Nat)} {pidx : Nat}
    (hp : PoolFacts g order pools) {st : RSt} (h : RInv g pools pidx st)
    (hstuck : ∀ i, i < pools.length → i ∉ st.visited → pools.getD i [] ≠ [] →
      depsIn g (firstOf pools i) st.processed = false) :
    ∀ i, i < pools.length → pools.getD i [] ≠ [] → i ∈ st.visited := by
  intro i hi hne
  apply Classical.byContradiction; intro hnv
  obtain ⟨q, hq, hqne, hqnv, hqd⟩ := exists_ready hp h.procArgs h.procPools hi hne hnv
  rw [hstuck q hq hqnv hqne] at hqd
  cases hqd

theorem visited_length_le {g : Graph} {pools : List (List Nat)} {pidx : Nat} {st : RSt}
    (h : RInv g pools pidx st) : st.visited.length ≤ pools.length := by
  have := List.Nodup.length_le_of_subset h.visNodup (l₂ := List.range pools.length)
    (fun v hv => by simpa using h.visLt v hv)
  simpa using this

/-- a round changes nothing but the flag, and then no unvisited non-empty pool was ready, or it visits a pool more -/
theorem round_cases (g : Graph) (pools : List (List Nat)) (st : RSt) :
    (round g pools st = { st with progress := false } ∧ ∀ i, i < pools.length → i ∉ st.visited → pools.getD i [] ≠ [] →
      depsIn g (firstOf pools i) st.processed = false) ∨
    ((round g pools st).progress = true ∧ st.visited.length < (round g pools st).visited.length) :=
  (foldl_roundStep_cases g pools (List.range pools.length) { st with progress := false }).imp_left fun h =>
    ⟨h.1, fun i hi hnv hne => ((h.2 i (List.mem_range.mpr hi)).resolve_left hnv).resolve_left hne⟩

/-- with fuel for every pool not yet visited, the rounds end in a state that has visited every non-empty pool -/
theorem rounds_final {g : Graph} {order : List Nat} {pools : List (List Nat)} {pidx : Nat}
    (hp : PoolFacts g order pools) (k : Nat) {st : RSt} (h : RInv g pools pidx st)
    (hk : pools.length < st.visited.length + k) :
    RInv g pools pidx (rounds g pools k st) ∧
      ∀ i, i < pools.length → pools.getD i [] ≠ [] → i ∈ (rounds g pools k st).visited := by
  induction k generalizing st with
  | zero =>
    have := visited_length_le h
    omega
  | succ k ih =>
    simp only [rounds]
    have hr := round_inv hp h
    rcases round_cases g pools st with ⟨heq, hstuck⟩ | ⟨hprog, hlt⟩
    · -- nothing was ready
      rw [heq] at hr ⊢
      rw [if_neg Bool.false_ne_true]
      exact ⟨hr, stuck_complete hp hr hstuck⟩
    · -- a pool more has been visited: the remaining fuel suffices
      rw [if_pos hprog]
      exact ih hr (by omega)

theorem stmtsState_cases (g : Graph) (pools : List (List Nat)) :
    (stmtsState g pools = none ∧ (List.range pools.length).filter (isInitial g pools) = []) ∨
    ∃ pidx ∈ (List.range pools.length).filter (isInitial g pools),
      stmtsState g pools = some (rounds g pools (pools.length + 1)
        (((List.range pools.length).filter (isInitial g pools)).foldl (initStep pools) (rInit g pools pidx))) := by
  unfold stmtsState
  generalize (List.range pools.length).filter (isInitial g pools) = initial
  cases initial with
  | nil => exact Or.inl ⟨rfl, rfl⟩
  | cons a as =>
    refine Or.inr ⟨_, ?_, rfl⟩
    cases hf : (a :: as).find? (fun i => !isAsyncNode g (firstOf pools i)) with
    | some x => exact List.mem_of_find?_eq_some hf
    | none => exact List.mem_cons_self ..

theorem stmtFacts_of_buildStmts2 {g : Graph} {order : List Nat} {pools : List (List Nat)}
    (hp : PoolFacts g order pools) {parent : List Nat} {chains : List (List Nat)}
    (hb : buildStmts2 g pools = .ok (parent, chains)) :
    StmtFacts g pools parent chains ∧ 0 < pools.length := by
  unfold buildStmts2 at hb
  rcases stmtsState_cases g pools with ⟨hst, _⟩ | ⟨pidx, hpi, hst⟩
  · rw [hst] at hb; cases hb
  · rw [hst] at hb
    cases hb
    have hpilt : pidx < pools.length := List.mem_range.mp (List.mem_filter.mp hpi).1
    obtain ⟨hfin, hcomp⟩ := rounds_final hp (pools.length + 1) (init_state_inv pidx hpi) (by omega)
    refine ⟨{ cover := ?_, idx := ⟨pidx, _, by rw [hfin.parentOne, List.flatMap_singleton], rfl, hfin.chainOK⟩ }, by omega⟩
    intro p n hn
    have hv := hcomp p (List.lt_length_of_mem_getD hn) (List.ne_nil_of_mem hn)
    rcases (hfin.split p).mp hv with h | h
    · rw [hfin.parentOne, List.mem_singleton] at h
      rw [hfin.parentOne, List.flatMap_singleton, ← h]
      exact Or.inl hn
    · exact Or.inr ⟨pools.getD p [], List.mem_map_of_mem h, hn⟩

end KV
