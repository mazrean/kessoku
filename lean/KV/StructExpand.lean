import KV.Plan
import KV.ListLemmas
/-! Struct expansion in declaration order (`expandFields`, `pass2Ordered`), in closed form.

The map half of `expandFields` is the strict insertion loop `insNew`, its provider half a `map` (`expandFields_eq`); `insNew`
succeeds iff the keys are `Free` — unbound and pairwise different — and then returns `m ++ keyEntries n ts` (`insNew_cases`).
`pass2Ordered` (the planner before the repair of the struct-order defect; every run of the repaired `pass2` is a run of it on
a reordering, `KV/StructRounds.lean`) also wants the struct type of each provider supplied when its turn comes
(`OrdSourced`): `pass2Ordered_cases`. -/
namespace KV

/-- the synthetic provider `NewGraph` makes for field `fname : fty` of struct `sty` -/
def mkFieldProv (sty decl : Nat) (fname : String) (fty : Nat) : PSpec :=
  { kind := 2, requires := [sty], provides := [[fty]], structTy := sty, fieldName := fname, decl := decl }

def fieldTys (sp : PSpec) : List Nat := sp.fields.map (·.2)

theorem mem_fieldTys {sp : PSpec} {f : String × Nat} (h : f ∈ sp.fields) : f.2 ∈ fieldTys sp :=
  List.mem_map.mpr ⟨f, h, rfl⟩

/-- all field types expanded by a list of struct providers (in list order; the repaired planner may expand in
    another order, which only permutes this list) -/
def allFieldTys (sps : List PSpec) : List Nat := sps.flatMap fieldTys

theorem allFieldTys_cons (sp : PSpec) (sps : List PSpec) :
    allFieldTys (sp :: sps) = fieldTys sp ++ allFieldTys sps := List.flatMap_cons

theorem allFieldTys_append (a b : List PSpec) : allFieldTys (a ++ b) = allFieldTys a ++ allFieldTys b :=
  List.flatMap_append

theorem allFieldTys_perm {a b : List PSpec} (h : a.Perm b) : (allFieldTys a).Perm (allFieldTys b) :=
  List.Perm.flatMap_right fieldTys h

theorem mem_allFieldTys {sps : List PSpec} {sp : PSpec} {t : Nat} (hsp : sp ∈ sps) (ht : t ∈ fieldTys sp) :
    t ∈ allFieldTys sps :=
  List.mem_flatMap.mpr ⟨sp, hsp, ht⟩

def keyEntries (n : Nat) : List Nat → SupMap
  | [] => []
  | t :: ts => (t, (n, 0)) :: keyEntries (n + 1) ts

theorem keyEntries_append (n : Nat) (a b : List Nat) :
    keyEntries n (a ++ b) = keyEntries n a ++ keyEntries (n + a.length) b := by
  induction a generalizing n with
  | nil => rfl
  | cons t a ih => simp only [List.cons_append, keyEntries, ih, List.length_cons]; congr 3; omega

theorem keyEntries_keys (n : Nat) (ts : List Nat) : (keyEntries n ts).map (·.1) = ts := by
  induction ts generalizing n with
  | nil => rfl
  | cons a ts ih => rw [keyEntries, List.map_cons, ih]

theorem lookup_append_keyEntries_eq_none {m : SupMap} {n : Nat} {ts : List Nat} {t : Nat} :
    (m ++ keyEntries n ts).lookup t = none ↔ m.lookup t = none ∧ t ∉ ts := by
  rw [List.lookup_append, Option.or_eq_none_iff, List.lookup_eq_none_iff_not_mem_keys (l := keyEntries n ts),
    keyEntries_keys]

theorem lookup_keyEntries (n : Nat) (ts : List Nat) (t : Nat) :
    (keyEntries n ts).lookup t = if t ∈ ts then some (n + ts.idxOf t, 0) else none := by
  induction ts generalizing n with
  | nil => rfl
  | cons a ts ih =>
    rw [keyEntries, List.lookup_cons, ih, List.idxOf_cons]
    by_cases h : t = a
    · subst h
      rw [beq_self_eq_true, if_pos List.mem_cons_self]; rfl
    · rw [beq_false_of_ne h, beq_false_of_ne (Ne.symm h)]
      by_cases hm : t ∈ ts
      · rw [if_pos hm, if_pos (List.mem_cons_of_mem _ hm), cond_false, Nat.add_right_comm, Nat.add_assoc]
      · rw [if_neg hm, if_neg (fun hc => (List.mem_cons.mp hc).elim h hm)]

theorem lookup_keyEntries_of_getElem? {n i t : Nat} {ts : List Nat} (hnd : ts.Nodup) (h : ts[i]? = some t) :
    (keyEntries n ts).lookup t = some (n + i, 0) := by
  obtain ⟨hi, rfl⟩ := List.getElem?_eq_some_iff.mp h
  rw [lookup_keyEntries, if_pos (List.getElem_mem hi), hnd.idxOf_getElem i hi]

def Free (m : SupMap) (ts : List Nat) : Prop := ts.Nodup ∧ ∀ t ∈ ts, m.lookup t = none

theorem free_append {m : SupMap} (n : Nat) {a b : List Nat} :
    Free m (a ++ b) ↔ Free m a ∧ Free (m ++ keyEntries n a) b := by
  simp only [Free, List.nodup_append, List.forall_mem_append, lookup_append_keyEntries_eq_none]
  constructor
  · rintro ⟨⟨ha, hb, hab⟩, hma, hmb⟩
    exact ⟨⟨ha, hma⟩, hb, fun t ht => ⟨hmb t ht, fun hta => hab t hta t ht rfl⟩⟩
  · rintro ⟨⟨ha, hma⟩, hb, hmb⟩
    exact ⟨⟨ha, hb, fun x hx y hy hxy => (hmb y hy).2 (hxy ▸ hx)⟩, hma, fun t ht => (hmb t ht).1⟩

theorem Free.perm {m : SupMap} {a b : List Nat} (hp : a.Perm b) (h : Free m a) : Free m b :=
  ⟨hp.nodup h.1, fun t ht => h.2 t (hp.mem_iff.mpr ht)⟩

def insNew : List Nat → Nat → SupMap → Except PlanErr SupMap
  | [], _, m => .ok m
  | t :: ts, n, m =>
    match m.lookup t with
    | some _ => .error (.dup t)
    | none => insNew ts (n + 1) (m ++ [(t, (n, 0))])

theorem expandFields_eq (sty decl : Nat) (fs : List (String × Nat)) (provs : List PSpec) (m : SupMap) :
    expandFields sty decl fs provs m =
      (insNew (fs.map (·.2)) provs.length m).map
        fun m' => (provs ++ fs.map (fun f => mkFieldProv sty decl f.1 f.2), m') := by
  induction fs generalizing provs m with
  | nil => simp only [expandFields, List.map_nil, List.append_nil]; rfl
  | cons f fs ih =>
    simp only [expandFields, List.map_cons, insNew]
    cases m.lookup f.2 with
    | some v => rfl
    | none => simp only [ih, List.length_append, List.append_assoc]; rfl

theorem insNew_cases (ts : List Nat) (n : Nat) (m : SupMap) :
    (∃ t ∈ ts, insNew ts n m = .error (.dup t) ∧ ¬ Free m ts) ∨
    (Free m ts ∧ insNew ts n m = .ok (m ++ keyEntries n ts)) := by
  induction ts generalizing n m with
  | nil => exact Or.inr ⟨⟨List.nodup_nil, fun _ h => nomatch h⟩, by rw [keyEntries, List.append_nil]; rfl⟩
  | cons t ts ih =>
    have hfree : Free m (t :: ts) ↔ m.lookup t = none ∧ Free (m ++ [(t, (n, 0))]) ts :=
      (free_append n (a := [t])).trans (and_congr_left' ⟨fun h => h.2 t (List.mem_singleton_self t),
        fun h => ⟨List.pairwise_singleton _ t, fun _ hq => List.mem_singleton.mp hq ▸ h⟩⟩)
    rw [hfree, insNew]
    cases hl : m.lookup t with
    | some v => exact Or.inl ⟨t, List.mem_cons_self, rfl, fun h => nomatch h.1⟩
    | none =>
      rcases ih (n + 1) (m ++ [(t, (n, 0))]) with ⟨t', ht', he, hn⟩ | ⟨hf, he⟩
      · exact Or.inl ⟨t', List.mem_cons_of_mem _ ht', he, fun h => hn h.2⟩
      · exact Or.inr ⟨⟨rfl, hf⟩, by rw [he, keyEntries, List.append_assoc]; rfl⟩

theorem expandFields_cases (sty decl : Nat) (fs : List (String × Nat)) (provs : List PSpec) (m : SupMap) :
    (∃ t ∈ fs.map (·.2), expandFields sty decl fs provs m = .error (.dup t) ∧ ¬ Free m (fs.map (·.2))) ∨
    (Free m (fs.map (·.2)) ∧ expandFields sty decl fs provs m =
      .ok (provs ++ fs.map (fun f => mkFieldProv sty decl f.1 f.2), m ++ keyEntries provs.length (fs.map (·.2)))) := by
  rw [expandFields_eq]
  rcases insNew_cases (fs.map (·.2)) provs.length m with ⟨t, ht, he, hn⟩ | ⟨hf, he⟩
  · exact Or.inl ⟨t, ht, by rw [he]; rfl, hn⟩
  · exact Or.inr ⟨hf, by rw [he]; rfl⟩

theorem expandFields_err {sty decl : Nat} {fs : List (String × Nat)} {provs : List PSpec} {m : SupMap} {e : PlanErr}
    (h : expandFields sty decl fs provs m = .error e) : ∃ t, t ∈ fs.map (·.2) ∧ e = .dup t := by
  rcases expandFields_cases sty decl fs provs m with ⟨t, ht, he, _⟩ | ⟨_, he⟩
  · rw [he] at h; cases h; exact ⟨t, ht, rfl⟩
  · rw [he] at h; cases h

def fieldProvsOf (sps : List PSpec) : List PSpec :=
  sps.flatMap fun sp => sp.fields.map fun f => mkFieldProv sp.structTy sp.decl f.1 f.2

theorem fieldProvsOf_cons (sp : PSpec) (sps : List PSpec) :
    fieldProvsOf (sp :: sps) =
      (sp.fields.map fun f => mkFieldProv sp.structTy sp.decl f.1 f.2) ++ fieldProvsOf sps := List.flatMap_cons

/-- `allFieldTys` and `fieldProvsOf` are both a `map` of this list, which is how positions in the one are matched with
    positions in the other -/
def fieldRecs (sps : List PSpec) : List (PSpec × String × Nat) := sps.flatMap fun sp => sp.fields.map (sp, ·)

theorem allFieldTys_eq_map (sps : List PSpec) : allFieldTys sps = (fieldRecs sps).map (·.2.2) := by
  simp only [allFieldTys, fieldRecs, List.map_flatMap, List.map_map]; rfl

theorem fieldProvsOf_eq_map (sps : List PSpec) :
    fieldProvsOf sps = (fieldRecs sps).map fun r => mkFieldProv r.1.structTy r.1.decl r.2.1 r.2.2 := by
  simp only [fieldProvsOf, fieldRecs, List.map_flatMap, List.map_map]; rfl

theorem length_fieldProvsOf (sps : List PSpec) : (fieldProvsOf sps).length = (allFieldTys sps).length := by
  rw [allFieldTys_eq_map, fieldProvsOf_eq_map, List.length_map, List.length_map]

theorem fieldProvsOf_getElem? {sps : List PSpec} {sp : PSpec} (hsp : sp ∈ sps) {fname : String} {t : Nat}
    (hf : (fname, t) ∈ sp.fields) :
    ∃ i : Nat, (allFieldTys sps)[i]? = some t ∧
      (fieldProvsOf sps)[i]? = some (mkFieldProv sp.structTy sp.decl fname t) := by
  have hmem : (sp, fname, t) ∈ fieldRecs sps := List.mem_flatMap.mpr ⟨sp, hsp, List.mem_map.mpr ⟨_, hf, rfl⟩⟩
  obtain ⟨i, hi⟩ := List.mem_iff_getElem?.mp hmem
  refine ⟨i, ?_, ?_⟩
  · rw [allFieldTys_eq_map, List.getElem?_map, hi]; rfl
  · rw [fieldProvsOf_eq_map, List.getElem?_map, hi]; rfl

theorem mem_fieldProvsOf {sps : List PSpec} {fp : PSpec} (h : fp ∈ fieldProvsOf sps) :
    ∃ sty decl fname fty, fp = mkFieldProv sty decl fname fty := by
  obtain ⟨sp, _, h⟩ := List.mem_flatMap.mp h
  obtain ⟨f, _, rfl⟩ := List.mem_map.mp h
  exact ⟨_, _, _, _, rfl⟩

def OrdSourced (m : SupMap) (sps : List PSpec) : Prop :=
  ∀ pre sp post, sps = pre ++ sp :: post → m.lookup sp.structTy ≠ none ∨ sp.structTy ∈ allFieldTys pre

theorem ordSourced_cons {m : SupMap} (n : Nat) {sp : PSpec} {sps : List PSpec} :
    OrdSourced m (sp :: sps) ↔ m.lookup sp.structTy ≠ none ∧ OrdSourced (m ++ keyEntries n (fieldTys sp)) sps := by
  have hl : ∀ t pre, (m ++ keyEntries n (fieldTys sp)).lookup t ≠ none ∨ t ∈ allFieldTys pre ↔
      m.lookup t ≠ none ∨ t ∈ allFieldTys (sp :: pre) := by
    intro t pre
    rw [Ne, lookup_append_keyEntries_eq_none, allFieldTys_cons, List.mem_append, Classical.not_and_iff_not_or_not,
      Classical.not_not, or_assoc]
  constructor
  · intro h
    exact ⟨(h [] sp sps rfl).resolve_right (by simp [allFieldTys]),
      fun pre sp' post hs => (hl _ _).mpr (h (sp :: pre) sp' post (by rw [hs]; rfl))⟩
  · rintro ⟨h0, h⟩ pre sp' post hs
    cases pre with
    | nil => cases hs; exact Or.inl h0
    | cons a pre => cases hs; exact (hl _ _).mp (h pre sp' post rfl)

theorem pass2Ordered_cons_none {sp : PSpec} (sps : List PSpec) (provs : List PSpec) {m : SupMap}
    (hl : m.lookup sp.structTy = none) : pass2Ordered (sp :: sps) provs m = .error (.orphan sp.structTy) := by
  simp only [pass2Ordered, hl]; rfl

theorem pass2Ordered_cons_some {sp : PSpec} (sps : List PSpec) (provs : List PSpec) {m : SupMap} {v : Nat × Nat}
    (hl : m.lookup sp.structTy = some v) :
    pass2Ordered (sp :: sps) provs m =
      match expandFields sp.structTy sp.decl sp.fields provs m with
      | .error e => .error e
      | .ok r => pass2Ordered sps r.1 r.2 := by
  simp only [pass2Ordered, hl, bind, Except.bind]
  cases expandFields sp.structTy sp.decl sp.fields provs m with
  | error e => rfl
  | ok r => rfl

theorem pass2Ordered_cases (sps : List PSpec) (provs : List PSpec) (m : SupMap) :
    (∃ e, pass2Ordered sps provs m = .error e ∧
      ((∃ t ∈ allFieldTys sps, e = .dup t ∧ ¬ Free m (allFieldTys sps)) ∨
       (∃ sp ∈ sps, e = .orphan sp.structTy ∧ ¬ OrdSourced m sps))) ∨
    (Free m (allFieldTys sps) ∧ OrdSourced m sps ∧
      pass2Ordered sps provs m = .ok (provs ++ fieldProvsOf sps, m ++ keyEntries provs.length (allFieldTys sps))) := by
  induction sps generalizing provs m with
  | nil =>
    refine Or.inr ⟨⟨List.nodup_nil, fun _ h => nomatch h⟩, fun pre sp post h => by simp at h, ?_⟩
    simp only [fieldProvsOf, allFieldTys, List.flatMap_nil, keyEntries, List.append_nil]; rfl
  | cons sp sps ih =>
    -- both conditions split: `sp` is judged in `m`, the rest in `m` extended by the fields of `sp`
    rw [allFieldTys_cons, free_append provs.length, ordSourced_cons provs.length]
    cases hl : m.lookup sp.structTy with
    | none =>
      exact Or.inl ⟨.orphan sp.structTy, pass2Ordered_cons_none sps provs hl,
        Or.inr ⟨sp, List.mem_cons_self, rfl, fun h => h.1 rfl⟩⟩
    | some v =>
      rw [pass2Ordered_cons_some sps provs hl]
      rcases expandFields_cases sp.structTy sp.decl sp.fields provs m with ⟨t, ht, he, hn⟩ | ⟨hf, he⟩
      · exact Or.inl ⟨.dup t, by rw [he], Or.inl ⟨t, List.mem_append_left _ ht, rfl, fun h => hn h.1⟩⟩
      · rw [he]
        rcases ih (provs ++ sp.fields.map fun f => mkFieldProv sp.structTy sp.decl f.1 f.2)
            (m ++ keyEntries provs.length (fieldTys sp)) with ⟨e, he', hc⟩ | ⟨hf', hs', he'⟩
        · refine Or.inl ⟨e, he', ?_⟩
          rcases hc with ⟨t, ht, rfl, hn⟩ | ⟨sp', hsp', rfl, hn⟩
          · exact Or.inl ⟨t, List.mem_append_right _ ht, rfl, fun h => hn h.2⟩
          · exact Or.inr ⟨sp', List.mem_cons_of_mem _ hsp', rfl, fun h => hn h.2⟩
        · refine Or.inr ⟨⟨hf, hf'⟩, ⟨Option.some_ne_none v, hs'⟩, he'.trans ?_⟩
          rw [fieldProvsOf_cons, keyEntries_append, List.append_assoc, List.append_assoc,
            List.length_append, List.length_map, fieldTys, List.length_map]

theorem pass2Ordered_ok {sps provs : List PSpec} {m : SupMap} {r : List PSpec × SupMap}
    (h : pass2Ordered sps provs m = .ok r) :
    Free m (allFieldTys sps) ∧ OrdSourced m sps ∧
      r = (provs ++ fieldProvsOf sps, m ++ keyEntries provs.length (allFieldTys sps)) := by
  rcases pass2Ordered_cases sps provs m with ⟨e, he, _⟩ | ⟨hf, hs, he⟩
  · rw [he] at h; cases h
  · rw [he] at h; cases h; exact ⟨hf, hs, rfl⟩

theorem pass2Ordered_err {sps provs : List PSpec} {m : SupMap} {e : PlanErr}
    (h : pass2Ordered sps provs m = .error e) :
    (∃ t ∈ allFieldTys sps, e = .dup t ∧ ¬ Free m (allFieldTys sps)) ∨
    (∃ sp ∈ sps, e = .orphan sp.structTy ∧ ¬ OrdSourced m sps) := by
  rcases pass2Ordered_cases sps provs m with ⟨e', he, hc⟩ | ⟨_, _, he⟩
  · rw [he] at h; cases h; exact hc
  · rw [he] at h; cases h

end KV
