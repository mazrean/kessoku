import KV.PlanBasics
import KV.Fop
import KV.Kahn
/-! The first pass of `Build` (graph.go): it walks the Kahn order, gives every node its result variables and every
    provider node a pool.  What one step does to each table (`p1Step_*`); what the parameter table records, in
    whatever order the nodes come (`P1Rec`); the invariant of a pass over a duplicate-free order (`P1Inv`, whose `rets*`
    fields are read off `P1Rec`), and one induction principle for it (`bpass1_induction`). -/
namespace KV

/-- invariant of the first pass after processing the prefix `done` of the Kahn order -/
structure P1Inv (g : Graph) (k : Nat) (done : List Nat) (st : P1St) : Prop where
  lenPools : st.pools.length = k
  lenNP : st.nodePool.length = g.nodes.length
  lenNR : st.nodeRets.length = g.nodes.length
  sub : ∀ p, (st.pools.getD p []).Sublist done
  poolOf : ∀ p n, n ∈ st.pools.getD p [] → st.nodePool.getD n none = some p
  placed : ∀ n ∈ done, isArgNode g n = false → 0 < k → ∃ p, p < k ∧ n ∈ st.pools.getD p []
  argNoPool : ∀ n, isArgNode g n = true → st.nodePool.getD n none = none
  fresh : ∀ n, n ∉ done → st.nodePool.getD n none = none ∧ st.nodeRets.getD n [] = []
  retsLt : ∀ n v, v ∈ st.nodeRets.getD n [] → v < st.params.length
  retsOwner : ∀ n v, v ∈ st.nodeRets.getD n [] → (st.params.getD v default).node = n
  retsArg : ∀ n v, v ∈ st.nodeRets.getD n [] → (st.params.getD v default).isArg = isArgNode g n
  retsLen : ∀ n ∈ done, (st.nodeRets.getD n []).length =
    (if isArgNode g n then 1 else (g.provs.getD (g.nodes.getD n default).prov default).provides.length)
  noChan : ∀ v, (st.params.getD v default).withChan = false

theorem P1Inv.not_arg_of_mem_pool {g : Graph} {k : Nat} {done : List Nat} {st : P1St} (h : P1Inv g k done st)
    {q n : Nat} (hn : n ∈ st.pools.getD q []) : isArgNode g n = false :=
  Bool.eq_false_iff.mpr fun ha => nomatch (h.poolOf q n hn).symm.trans (h.argNoPool n ha)

/-- non-empty pools start with different nodes, all of them placed: if no pool is empty there are at most
    `done.length` pools -/
theorem P1Inv.pools_le_of_nonempty {g : Graph} {k : Nat} {done : List Nat} {st : P1St} (h : P1Inv g k done st)
    (hfull : ∀ i, i < st.pools.length → st.pools.getD i [] ≠ []) : k ≤ done.length := by
  have hmem : ∀ i, i < k → (st.pools.getD i []).headD 0 ∈ st.pools.getD i [] := fun i hi => by
    cases hp : st.pools.getD i [] with
    | nil => exact absurd hp (hfull i (h.lenPools ▸ hi))
    | cons x xs => exact List.mem_cons_self ..
  exact List.le_length_of_injOn (fun i => (st.pools.getD i []).headD 0)
    (fun i j hi hj e => Option.some.inj ((h.poolOf _ _ (hmem i hi)).symm.trans (e ▸ h.poolOf _ _ (hmem j hj))))
    fun i hi => (h.sub i).subset (hmem i hi)

def outCount (g : Graph) (n : Nat) : Nat :=
  if isArgNode g n then 1 else (g.provs.getD (g.nodes.getD n default).prov default).provides.length

theorem p1Step_params (g : Graph) (st : P1St) (n : Nat) :
    (p1Step g st n).params = st.params ++
      (List.range (outCount g n)).map (fun gi => ({ node := n, group := gi, isArg := isArgNode g n } : Param)) := by
  cases ha : (g.nodes.getD n default).isArg <;>
    simp only [p1Step, outCount, isArgNode, ha, Bool.false_eq_true, ↓reduceIte] <;> rfl

theorem getElem?_p1Step_params_new (g : Graph) (st : P1St) (n : Nat) {gi : Nat} (h : gi < outCount g n) :
    (p1Step g st n).params[gi + st.params.length]? =
      some ({ node := n, group := gi, isArg := isArgNode g n } : Param) := by
  rw [p1Step_params, List.getElem?_append_right (Nat.le_add_left ..), Nat.add_sub_cancel, List.getElem?_map,
    List.getElem?_range h]
  rfl

theorem p1Step_nodeRets (g : Graph) (st : P1St) (n : Nat) :
    (p1Step g st n).nodeRets = st.nodeRets.set n ((List.range (outCount g n)).map (· + st.params.length)) := by
  cases ha : (g.nodes.getD n default).isArg <;>
    simp only [p1Step, outCount, isArgNode, ha, Bool.false_eq_true, ↓reduceIte]
  rw [show List.range 1 = [0] from rfl, List.map_singleton, Nat.zero_add]

theorem p1Step_pools (g : Graph) (st : P1St) (n : Nat) :
    (p1Step g st n).pools =
      if isArgNode g n then st.pools else listModify st.pools (findOptimalPool2 g n st.pools st.poolProv) (· ++ [n]) := by
  cases ha : (g.nodes.getD n default).isArg <;> simp only [p1Step, isArgNode, ha, Bool.false_eq_true, ↓reduceIte]

theorem p1Step_poolProv (g : Graph) (st : P1St) (n : Nat) :
    (p1Step g st n).poolProv =
      if isArgNode g n then st.poolProv
      else listModify st.poolProv (findOptimalPool2 g n st.pools st.poolProv) (· ++ [n]) := by
  cases ha : (g.nodes.getD n default).isArg <;> simp only [p1Step, isArgNode, ha, Bool.false_eq_true, ↓reduceIte]

theorem p1Step_nodePool (g : Graph) (st : P1St) (n : Nat) :
    (p1Step g st n).nodePool =
      if isArgNode g n then st.nodePool else st.nodePool.set n (some (findOptimalPool2 g n st.pools st.poolProv)) := by
  cases ha : (g.nodes.getD n default).isArg <;> simp only [p1Step, isArgNode, ha, Bool.false_eq_true, ↓reduceIte]

theorem p1Step_args (g : Graph) (st : P1St) (n : Nat) :
    (p1Step g st n).args = if isArgNode g n then st.args ++ [st.params.length] else st.args := by
  cases ha : (g.nodes.getD n default).isArg <;> simp only [p1Step, isArgNode, ha, Bool.false_eq_true, ↓reduceIte]

theorem p1Step_isErr (g : Graph) (st : P1St) (n : Nat) :
    (p1Step g st n).isErr =
      if isArgNode g n then st.isErr else (st.isErr || (g.provs.getD (g.nodes.getD n default).prov default).isErr) := by
  cases ha : (g.nodes.getD n default).isArg <;> simp only [p1Step, isArgNode, ha, Bool.false_eq_true, ↓reduceIte]

theorem getD_p1Step_pools (g : Graph) (st : P1St) (n q : Nat) :
    (p1Step g st n).pools.getD q [] =
      if isArgNode g n = false ∧ findOptimalPool2 g n st.pools st.poolProv = q ∧ q < st.pools.length
      then st.pools.getD q [] ++ [n] else st.pools.getD q [] := by
  rw [p1Step_pools]
  cases isArgNode g n
  · rw [if_neg Bool.false_ne_true, getD_listModify]
    by_cases hq : findOptimalPool2 g n st.pools st.poolProv = q
    · subst hq; simp only [true_and]
    · rw [if_neg fun h => hq h.1, if_neg fun h => hq h.2.1]
  · rw [if_pos rfl, if_neg fun h => Bool.noConfusion h.1]

theorem mem_p1Step_pools {g : Graph} {st : P1St} {n q m : Nat} :
    m ∈ (p1Step g st n).pools.getD q [] ↔ m ∈ st.pools.getD q [] ∨
      (m = n ∧ isArgNode g n = false ∧ findOptimalPool2 g n st.pools st.poolProv = q ∧ q < st.pools.length) := by
  rw [getD_p1Step_pools]
  split
  · rename_i h; simp only [List.mem_append, List.mem_singleton, h, and_self, and_true]
  · rename_i h; simp only [h, and_false, or_false]

theorem p1Init_pools_getD (g : Graph) (k i : Nat) : (p1Init g k).pools.getD i [] = [] := List.getD_replicate_self

theorem p1Init_nodeRets_getD (g : Graph) (k n : Nat) : (p1Init g k).nodeRets.getD n [] = [] := List.getD_replicate_self

theorem p1Init_nodePool_getD (g : Graph) (k n : Nat) : (p1Init g k).nodePool.getD n none = none :=
  List.getD_replicate_self

/-! ### what the pass records in the parameter table -/

/-- what the first pass of `Build` makes of the parameter table, in whatever order the nodes come: result
    variable number `gi` of node `n` is the record `⟨n, gi, isArgNode g n⟩`, no record is referenced or has a channel
    yet, and `args` lists the records of the argument nodes -/
structure P1Rec (g : Graph) (st : P1St) : Prop where
  ofRet : ∀ n gi v, (st.nodeRets.getD n [])[gi]? = some v →
    st.params[v]? = some ({ node := n, group := gi, isArg := isArgNode g n } : Param)
  unused : ∀ q ∈ st.params, q.refs = 0 ∧ q.withChan = false
  argsEq : st.args = (st.params.zipIdx.filter (·.1.isArg)).map (·.2)

theorem P1Rec.args {g : Graph} {st : P1St} (h : P1Rec g st) (v : Nat) :
    v ∈ st.args ↔ v < st.params.length ∧ (st.params.getD v default).isArg = true := by
  rw [h.argsEq, List.mem_map]
  constructor
  · rintro ⟨⟨q, i⟩, hx, rfl⟩
    obtain ⟨hm, hq⟩ := List.mem_filter.mp hx
    have hq' := List.mem_zipIdx_iff_getElem?.mp hm
    exact ⟨List.lt_length_of_getElem? hq', by rw [List.getD_of_getElem? default hq']; exact hq⟩
  · rintro ⟨hv, hva⟩
    exact ⟨(_, v), List.mem_filter.mpr ⟨List.mem_zipIdx_iff_getElem?.mpr (List.getElem?_eq_some_getD default hv), hva⟩, rfl⟩

theorem p1Init_rec (g : Graph) (k : Nat) : P1Rec g (p1Init g k) where
  ofRet := by intro n gi v hv; rw [p1Init_nodeRets_getD] at hv; cases hv
  unused := fun q hq => nomatch hq
  argsEq := rfl

theorem p1Step_rec {g : Graph} {st : P1St} (n : Nat) (h : P1Rec g st) : P1Rec g (p1Step g st n) := by
  refine ⟨?_, ?_, ?_⟩
  · intro m gi v hv
    rw [p1Step_nodeRets, List.getD_set] at hv
    split at hv
    · -- a result of the node just placed: `v = gi + st.params.length` indexes record `gi` of the new block
      rename_i hc
      obtain ⟨rfl, _⟩ := hc
      have hgi : gi < outCount g n := by simpa using List.lt_length_of_getElem? hv
      rw [List.getElem?_map, List.getElem?_range hgi] at hv
      cases hv
      exact getElem?_p1Step_params_new g st n hgi
    · rw [p1Step_params]
      exact List.getElem?_append_of_some _ (h.ofRet m gi v hv)
  · intro q hq
    rw [p1Step_params] at hq
    rcases List.mem_append.mp hq with hq | hq
    · exact h.unused q hq
    · obtain ⟨gi, _, rfl⟩ := List.mem_map.mp hq
      exact ⟨rfl, rfl⟩
  · -- of the new records the one of an argument node is listed, at index `st.params.length`
    rw [p1Step_args, p1Step_params, List.zipIdx_append, List.filter_append, List.map_append, ← h.argsEq, outCount]
    cases hA : isArgNode g n
    · rw [if_neg Bool.false_ne_true, if_neg Bool.false_ne_true, List.filter_eq_nil_iff.mpr, List.map_nil,
        List.append_nil]
      intro x hx
      obtain ⟨gi, _, hgi⟩ := List.mem_map.mp (List.fst_mem_of_mem_zipIdx hx)
      rw [← hgi]; exact Bool.false_ne_true
    · rw [if_pos rfl, if_pos rfl, Nat.zero_add]; rfl

theorem bpass1_rec (g : Graph) (order : List Nat) (k : Nat) : P1Rec g (bpass1 g order k) :=
  List.foldlRecOn order _ (p1Init_rec g k) fun _ h n _ => p1Step_rec n h

theorem bpass1_args (g : Graph) (order : List Nat) (k : Nat) :
    (bpass1 g order k).args.map (fun v => ((bpass1 g order k).params.getD v default).node) =
      order.filter (isArgNode g) := by
  refine (List.foldl_prefix_induction (p1Step g) (fun pre st => P1Rec g st ∧
    st.args.map (fun v => (st.params.getD v default).node) = pre.filter (isArgNode g)) order
    ⟨p1Init_rec g k, rfl⟩ ?_).2
  rintro pre x _ st - ⟨hrec, hmap⟩
  refine ⟨p1Step_rec x hrec, ?_⟩
  -- the parameters allocated so far keep their index
  have hold : st.args.map (fun v => ((p1Step g st x).params.getD v default).node) = pre.filter (isArgNode g) := by
    rw [← hmap, p1Step_params]
    refine List.map_congr_left fun v hv => ?_
    rw [List.getD_append_left _ ((hrec.args v).mp hv).1]
  rw [p1Step_args, List.filter_append, List.filter_cons, List.filter_nil]
  cases hA : isArgNode g x
  · rw [if_neg Bool.false_ne_true, if_neg Bool.false_ne_true, List.append_nil]; exact hold
  · -- an argument node gets one parameter, at the next free index
    rw [if_pos rfl, if_pos rfl, List.map_append, hold, List.map_singleton, p1Step_params,
      List.getD_append_right _ (Nat.le_refl _), Nat.sub_self, outCount, hA]
    rfl

theorem bpass1_isErr (g : Graph) (order : List Nat) (k : Nat) :
    (bpass1 g order k).isErr =
      order.any fun n => !(g.nodes.getD n default).isArg && (g.provs.getD (g.nodes.getD n default).prov default).isErr := by
  refine List.foldl_prefix_induction (p1Step g) (fun pre st => st.isErr = pre.any fun n =>
    !(g.nodes.getD n default).isArg && (g.provs.getD (g.nodes.getD n default).prov default).isErr) order rfl ?_
  rintro pre x - st - h
  rw [p1Step_isErr, List.any_append, List.any_cons, List.any_nil, Bool.or_false, ← h, isArgNode]
  cases (g.nodes.getD x default).isArg
  · rfl
  · rw [if_pos rfl, Bool.not_true, Bool.false_and, Bool.or_false]

/-- a result variable of `n` indexes a record of `n` -/
theorem P1Rec.of_mem {g : Graph} {st : P1St} (h : P1Rec g st) {n v : Nat} (hv : v ∈ st.nodeRets.getD n []) :
    ∃ gi, st.params[v]? = some ({ node := n, group := gi, isArg := isArgNode g n } : Param) :=
  (List.getElem?_of_mem hv).imp fun gi hgi => h.ofRet n gi v hgi

theorem p1Init_inv (g : Graph) (k : Nat) : P1Inv g k [] (p1Init g k) where
  lenPools := List.length_replicate
  lenNP := List.length_replicate
  lenNR := List.length_replicate
  sub := fun p => by rw [p1Init_pools_getD]; exact List.nil_sublist _
  poolOf := fun p n h => by rw [p1Init_pools_getD] at h; cases h
  placed := fun n hn => nomatch hn
  argNoPool := fun n _ => p1Init_nodePool_getD g k n
  fresh := fun n _ => ⟨p1Init_nodePool_getD g k n, p1Init_nodeRets_getD g k n⟩
  retsLt := fun n v h => by rw [p1Init_nodeRets_getD] at h; cases h
  retsOwner := fun n v h => by rw [p1Init_nodeRets_getD] at h; cases h
  retsArg := fun n v h => by rw [p1Init_nodeRets_getD] at h; cases h
  retsLen := fun n hn => nomatch hn
  noChan := fun _ => rfl

theorem p1Step_inv {g : Graph} {k : Nat} {done : List Nat} {st : P1St} {n : Nat}
    (h : P1Inv g k done st) (hr : P1Rec g (p1Step g st n)) (hn : n ∉ done) (hnl : n < g.nodes.length) :
    P1Inv g k (done ++ [n]) (p1Step g st n) := by
  have hNR : n < st.nodeRets.length := by rw [h.lenNR]; exact hnl
  have hNP : n < st.nodePool.length := by rw [h.lenNP]; exact hnl
  have hdone : ∀ m ∈ done, n ≠ m := fun m hm e => hn (e ▸ hm)
  -- the pool entry of `m` is touched only when `m` is the node being placed and a provider node
  have hpool : ∀ m, (n = m → isArgNode g n = true) →
      (p1Step g st n).nodePool.getD m none = st.nodePool.getD m none := by
    intro m hm
    rw [p1Step_nodePool]; split
    · rfl
    · rename_i ha
      exact List.getD_set_ne _ _ fun e => ha (hm e)
  have hrets : ∀ m, (p1Step g st n).nodeRets.getD m [] =
      if n = m then (List.range (outCount g n)).map (· + st.params.length) else st.nodeRets.getD m [] := by
    intro m
    simp only [p1Step_nodeRets, List.getD_set, hNR, and_true]
  refine { lenPools := ?lenPools, lenNP := ?lenNP, lenNR := ?lenNR, sub := ?sub, poolOf := ?poolOf, placed := ?placed,
           argNoPool := ?argNoPool, fresh := ?fresh, retsLt := ?retsLt, retsOwner := ?retsOwner, retsArg := ?retsArg,
           retsLen := ?retsLen, noChan := ?noChan }
  case lenPools =>
    rw [p1Step_pools, apply_ite List.length, listModify_length, ite_self]; exact h.lenPools
  case lenNP =>
    rw [p1Step_nodePool, apply_ite List.length, List.length_set, ite_self]; exact h.lenNP
  case lenNR =>
    rw [p1Step_nodeRets, List.length_set]; exact h.lenNR
  case sub =>
    intro q
    rw [getD_p1Step_pools]; split
    · exact List.Sublist.append (h.sub q) (List.Sublist.refl [n])
    · exact (h.sub q).trans (List.sublist_append_left done [n])
  case poolOf =>
    intro q m hm
    rcases mem_p1Step_pools.mp hm with hm' | ⟨rfl, ha, rfl, _⟩
    · rw [hpool m fun e => absurd e (hdone m ((h.sub q).subset hm'))]; exact h.poolOf q m hm'
    · rw [p1Step_nodePool, if_neg (by simp [ha]), List.getD_set_self _ _ hNP]
  case placed =>
    intro m hm hma hk
    rcases List.mem_append.mp hm with hm | hm
    · obtain ⟨q, hq, hmq⟩ := h.placed m hm hma hk
      exact ⟨q, hq, mem_p1Step_pools.mpr (Or.inl hmq)⟩
    · rw [List.mem_singleton.mp hm] at hma ⊢
      have hpl : findOptimalPool2 g n st.pools st.poolProv < st.pools.length :=
        findOptimalPool2_lt g n st.pools st.poolProv (by rw [h.lenPools]; exact hk)
      exact ⟨_, by rw [← h.lenPools]; exact hpl, mem_p1Step_pools.mpr (Or.inr ⟨rfl, hma, rfl, hpl⟩)⟩
  case argNoPool =>
    intro m hma
    rw [hpool m fun e => e ▸ hma]; exact h.argNoPool m hma
  case fresh =>
    intro m hm
    rw [List.mem_append, List.mem_singleton, not_or] at hm
    rw [hpool m fun e => absurd e.symm hm.2, hrets, if_neg fun e => hm.2 e.symm]
    exact h.fresh m hm.1
  case retsLt =>
    exact fun m v hv => (hr.of_mem hv).elim fun _ hq => List.lt_length_of_getElem? hq
  case retsOwner =>
    exact fun m v hv => (hr.of_mem hv).elim fun _ hq => by rw [List.getD_of_getElem? _ hq]
  case retsArg =>
    exact fun m v hv => (hr.of_mem hv).elim fun _ hq => by rw [List.getD_of_getElem? _ hq]
  case retsLen =>
    intro m hm
    rw [hrets]
    rcases List.mem_append.mp hm with hm | hm
    · rw [if_neg (hdone m hm)]; exact h.retsLen m hm
    · rw [if_pos (List.mem_singleton.mp hm).symm, List.mem_singleton.mp hm, List.length_map, List.length_range]; rfl
  case noChan =>
    exact List.getD_forall (P := fun q : Param => q.withChan = false) rfl fun q hq => (hr.unused q hq).2

theorem bpass1_induction {g : Graph} {k : Nat} {order : List Nat} (hnd : order.Nodup)
    (hlt : ∀ m ∈ order, m < g.nodes.length) {X : List Nat → P1St → Prop} (h0 : X [] (p1Init g k))
    (step : ∀ pre x post st, order = pre ++ x :: post → P1Inv g k pre st → X pre st → X (pre ++ [x]) (p1Step g st x)) :
    P1Inv g k order (bpass1 g order k) ∧ X order (bpass1 g order k) := by
  refine (List.foldl_prefix_induction (p1Step g) (fun done st => P1Rec g st ∧ P1Inv g k done st ∧ X done st) order
    ⟨p1Init_rec g k, p1Init_inv g k, h0⟩ ?_).2
  rintro pre x post st hsplit ⟨hr, h, hx⟩
  refine ⟨p1Step_rec x hr, p1Step_inv h (p1Step_rec x hr) ?_ (hlt x (by rw [hsplit]; simp)), step pre x post st hsplit h hx⟩
  intro hxp
  rw [hsplit] at hnd
  exact (List.nodup_append.mp hnd).2.2 x hxp x (List.mem_cons_self ..) rfl

theorem bpass1_inv {g : Graph} (order : List Nat) (k : Nat) (hnd : order.Nodup)
    (hlt : ∀ m ∈ order, m < g.nodes.length) : P1Inv g k order (bpass1 g order k) :=
  (bpass1_induction hnd hlt (X := fun _ _ => True) trivial (fun _ _ _ _ _ _ _ => trivial)).1

theorem bpass1_pools_length (g : Graph) (order : List Nat) (k : Nat) (hnd : order.Nodup)
    (hlt : ∀ m ∈ order, m < g.nodes.length) : (bpass1 g order k).pools.length = k :=
  (bpass1_inv (g := g) order k hnd hlt).lenPools

/-! ### pools that start with a synchronous node

Such a pool has only argument dependencies (`SyncFirst`), since `findOptimalPool` lets a synchronous node open an empty pool
only while every pool is empty; it is an initial pool of `buildStmts` (graph.go). -/

def SyncFirst (g : Graph) (st : P1St) : Prop :=
  ∀ i n rest, st.pools.getD i [] = n :: rest → isAsyncNode g n = false →
    ∀ d ∈ g.rev.getD n [], isArgNode g d = true

theorem p1Init_sync (g : Graph) (k : Nat) : SyncFirst g (p1Init g k) := by
  intro i n rest h
  rw [p1Init_pools_getD] at h; cases h

theorem p1Step_sync {g : Graph} {k : Nat} {done : List Nat} {st : P1St} {n : Nat}
    (h : P1Inv g k done st) (hs : SyncFirst g st)
    (hdeps : ∀ d ∈ g.rev.getD n [], d ∈ done) : SyncFirst g (p1Step g st n) := by
  intro i m rest hpool hsync
  rw [getD_p1Step_pools] at hpool
  split at hpool
  · rename_i hc
    obtain ⟨hnA, rfl, hpl⟩ := hc
    cases hold : st.pools.getD (findOptimalPool2 g n st.pools st.poolProv) [] with
    | cons x xs =>
      rw [hold] at hpool
      obtain ⟨rfl, _⟩ := List.cons.inj hpool
      exact hs _ x xs hold hsync
    | nil =>
      -- n opened an empty pool: it is the head
      rw [hold] at hpool
      obtain ⟨rfl, _⟩ := List.cons.inj hpool
      rcases findOptimalPool2_sync g n st.pools st.poolProv hsync with hne | hall
      · rw [hold] at hne; cases hne
      · -- every pool is empty, so no provider has been placed: everything done is an argument
        intro d hd
        cases hda : isArgNode g d with
        | true => rfl
        | false =>
          obtain ⟨q, hq, hdq⟩ := h.placed d (hdeps d hd) hda (by rw [← h.lenPools]; omega)
          have := hall q (by rw [h.lenPools]; exact hq)
          rw [List.isEmpty_iff.mp this] at hdq; cases hdq
  · exact hs i m rest hpool hsync

/-- dependencies of every node of the order occur before it -/
def DepsClosed (g : Graph) (order : List Nat) : Prop :=
  ∀ pre m post, order = pre ++ m :: post → ∀ d ∈ g.rev.getD m [], d ∈ pre

theorem bpass1_sync {g : Graph} (order : List Nat) (k : Nat) (hnd : order.Nodup)
    (hlt : ∀ m ∈ order, m < g.nodes.length) (hdc : DepsClosed g order) :
    SyncFirst g (bpass1 g order k) :=
  (bpass1_induction hnd hlt (X := fun _ st => SyncFirst g st) (p1Init_sync g k)
    (fun pre x post _ hsplit h hs => p1Step_sync h hs (hdc pre x post hsplit))).2

end KV
