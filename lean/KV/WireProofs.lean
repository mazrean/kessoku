import KV.Wire
import KV.ListLemmas
/-! # Proofs about the wire/kessoku-migrate model: the migration is faithful on `Wire.faithful` configurations -/
namespace Wire

/-! ### `NoBot` / `NoMissing` on calls -/

theorem NoBot_call {α} {name : Nat} {g : α → V} {l : List α} (h : NoBot (.call name (l.map g))) :
    ∀ x ∈ l, NoBot (g x) := by
  have h' : (l.map g).all V.noBot = true := (List.eq_all_of_eqns rfl (fun _ _ => rfl) _).symm.trans h
  rw [List.all_map, List.all_eq_true] at h'
  exact h'

theorem NoMissing_call {α} {name : Nat} {g : α → V} {l : List α} (h : NoMissing (.call name (l.map g))) :
    ∀ x ∈ l, NoMissing (g x) := by
  have h' : (l.map g).all V.noMissing = true := (List.eq_all_of_eqns rfl (fun _ _ => rfl) _).symm.trans h
  rw [List.all_map, List.all_eq_true] at h'
  exact h'

/-! ### per-item supplier functions -/

def wireItemSup (t : Ty) : Item → Option (Nat × List Ty)
  | .func f => if f.result = t then some (f.name, f.params) else none
  | .structP n fs => if t = .val n then some (mkName n, fs)
                     else if t = .ptr n then some (mkPtrName n, fs) else none
  | .fieldsOf n ptrForm fs =>
      if fs.contains t then some (fieldName, [if ptrForm then Ty.ptr n else Ty.val n]) else none
  | .bind _ _ => none

theorem wireSupplier_eq (items : List Item) (t : Ty) :
    wireSupplier items t = items.findSome? (wireItemSup t) := by
  unfold wireSupplier; congr

def kItemSup (t : Ty) : KItem → Option (Nat × List Ty)
  | .provide f => if f.result = t then some (f.name, f.params) else none
  | .bindProvide is f => if f.result = t ∨ t ∈ is.map Ty.iface then some (f.name, f.params) else none

theorem kSupplier_eq (ks : List KItem) (t : Ty) :
    kSupplier ks t = ks.findSome? (kItemSup t) := by
  unfold kSupplier; congr

theorem wireItemSup_some {t : Ty} {it : Item} {w : Nat × List Ty} (h : wireItemSup t it = some w) :
    (∃ f, it = .func f ∧ f.result = t ∧ w = (f.name, f.params)) ∨
    (∃ n fs, it = .structP n fs ∧ t = .val n ∧ w = (mkName n, fs)) ∨
    (∃ n fs, it = .structP n fs ∧ t = .ptr n ∧ w = (mkPtrName n, fs)) ∨
    (∃ n pf fs, it = .fieldsOf n pf fs ∧ t ∈ fs ∧ w = (fieldName, [if pf then Ty.ptr n else Ty.val n])) := by
  cases it with
  | func f =>
    obtain ⟨hr, hw⟩ := Option.ite_none_right_eq_some.1 h
    exact Or.inl ⟨f, rfl, hr, (Option.some.inj hw).symm⟩
  | bind => cases h
  | structP n fs =>
    by_cases hv : t = .val n
    · exact Or.inr (Or.inl ⟨n, fs, rfl, hv, (Option.some.inj ((if_pos hv).symm.trans h)).symm⟩)
    · obtain ⟨hp, hw⟩ := Option.ite_none_right_eq_some.1 ((if_neg hv).symm.trans h)
      exact Or.inr (Or.inr (Or.inl ⟨n, fs, rfl, hp, (Option.some.inj hw).symm⟩))
  | fieldsOf n pf fs =>
    obtain ⟨hr, hw⟩ := Option.ite_none_right_eq_some.1 h
    exact Or.inr (Or.inr (Or.inr ⟨n, pf, fs, rfl, List.contains_iff_mem.1 hr, (Option.some.inj hw).symm⟩))

theorem wireBinding_some {items : List Item} {t impl : Ty} (h : wireBinding items t = some impl) :
    ∃ i, t = .iface i ∧ .bind i impl ∈ items := by
  cases t with
  | iface i =>
    obtain ⟨it, hit, hs⟩ := List.exists_of_findSome?_eq_some h
    cases it with
    | bind j impl' =>
      simp only [Option.ite_none_right_eq_some, Option.some.injEq] at hs
      obtain ⟨rfl, rfl⟩ := hs
      exact ⟨i, rfl, hit⟩
    | _ => cases hs
  | _ => cases h

/-! ### the migration recursion -/

theorem migrateFrom_eq (c : Cfg) : ∀ (l : List Item) (i : Nat) (ks : List KItem), migrateFrom c i l = some ks →
    ks = (l.zipIdx i).flatMap fun p => (migrateItem c p.2 p.1).getD [] := by
  intro l
  induction l with
  | nil => intro i ks h; cases h; rfl
  | cons a r ih =>
    intro i ks h
    rw [migrateFrom] at h
    split at h
    · rename_i ka lr hga hr
      cases h
      rw [List.zipIdx_cons, List.flatMap_cons, ← ih _ _ hr, hga]; rfl
    · cases h

theorem migrateFrom_some (c : Cfg) : ∀ (l : List Item) (i : Nat),
    (∀ p ∈ l.zipIdx i, (migrateItem c p.2 p.1).isSome) → (migrateFrom c i l).isSome := by
  intro l
  induction l with
  | nil => intro i _; rfl
  | cons a r ih =>
    intro i h
    rw [List.zipIdx_cons, List.forall_mem_cons] at h
    obtain ⟨ka, hka⟩ := Option.isSome_iff_exists.1 h.1
    obtain ⟨lr, hlr⟩ := Option.isSome_iff_exists.1 (ih (i + 1) h.2)
    rw [migrateFrom, hka, hlr]; rfl

theorem migrate_mem {c : Cfg} {ks : List KItem} (hm : migrate c = some ks) (k : KItem) :
    k ∈ ks ↔ ∃ j it out, c.items[j]? = some it ∧ migrateItem c j it = some out ∧ k ∈ out := by
  rw [migrateFrom_eq c _ _ _ hm, List.mem_flatMap]
  constructor
  · rintro ⟨⟨it, j⟩, hp, hk⟩
    obtain ⟨out, ho, hko⟩ := Option.mem_getD_nil.1 hk
    exact ⟨j, it, out, List.mem_zipIdx_iff_getElem?.1 hp, ho, hko⟩
  · rintro ⟨j, it, out, hj, ho, hk⟩
    exact ⟨(it, j), List.mem_zipIdx_iff_getElem?.2 hj, Option.mem_getD_nil.2 ⟨out, ho, hk⟩⟩

theorem migrate_pairwise {c : Cfg} {ks : List KItem} (hm : migrate c = some ks) (R : KItem → KItem → Prop)
    (hin : ∀ j it out, c.items[j]? = some it → migrateItem c j it = some out → out.Pairwise R)
    (hcross : ∀ j j' it it' out out', j < j' → c.items[j]? = some it → c.items[j']? = some it' →
       migrateItem c j it = some out → migrateItem c j' it' = some out' → ∀ a ∈ out, ∀ b ∈ out', R a b) :
    ks.Pairwise R := by
  rw [migrateFrom_eq c _ _ _ hm, List.pairwise_flatMap]
  refine ⟨?_, List.pairwise_zipIdx _ _ ?_⟩
  · rintro ⟨it, j⟩ hp
    cases ho : migrateItem c j it with
    | none => exact List.Pairwise.nil
    | some out => exact hin j it out (List.mem_zipIdx_iff_getElem?.1 hp) ho
  · rintro ⟨it, j⟩ ⟨it', j'⟩ hp hp' hlt a ha b hb
    obtain ⟨out, ho, hao⟩ := Option.mem_getD_nil.1 ha
    obtain ⟨out', ho', hbo⟩ := Option.mem_getD_nil.1 hb
    exact hcross j j' it it' out out' hlt (List.mem_zipIdx_iff_getElem?.1 hp) (List.mem_zipIdx_iff_getElem?.1 hp')
      ho ho' a hao b hbo

theorem migrate_mem_intro {c : Cfg} {ks : List KItem} (hm : migrate c = some ks) {j : Nat} {it : Item}
    {out : List KItem} {k : KItem} (hj : c.items[j]? = some it) (ho : migrateItem c j it = some out) (hk : k ∈ out) :
    k ∈ ks :=
  (migrate_mem hm k).2 ⟨j, it, out, hj, ho, hk⟩

theorem mem_boundTypesIn {c : Cfg} {k : Nat} {t : Ty} :
    t ∈ boundTypesIn c k ↔ ∃ j i, c.items[j]? = some (.bind i t) ∧ partOf c j = k := by
  unfold boundTypesIn
  rw [List.mem_filterMap_zipIdx]
  constructor
  · rintro ⟨j, it, hj, hs⟩
    cases it with
    | bind i impl =>
      simp only [Option.ite_none_right_eq_some, Option.some.injEq] at hs
      exact ⟨j, i, hs.2 ▸ hj, hs.1⟩
    | _ => cases hs
  · rintro ⟨j, i, hj, hk⟩
    exact ⟨j, _, hj, if_pos hk⟩

/-! ### several `Bind`s on one implementation in one element list: the first emits, the later ones are nested into it -/

theorem mem_bindsOn {c : Cfg} {k : Nat} {impl : Ty} {i j : Nat} :
    (i, j) ∈ bindsOn c k impl ↔ c.items[j]? = some (.bind i impl) ∧ partOf c j = k := by
  unfold bindsOn
  rw [List.mem_filterMap_zipIdx]
  constructor
  · rintro ⟨j', it, hj, hs⟩
    cases it with
    | bind i' impl' =>
      simp only [Option.ite_none_right_eq_some, Option.some.injEq, Prod.mk.injEq] at hs
      obtain ⟨⟨rfl, hk⟩, rfl, rfl⟩ := hs
      exact ⟨hj, hk⟩
    | _ => cases hs
  · rintro ⟨hj, hk⟩
    exact ⟨j, _, hj, if_pos ⟨rfl, hk⟩⟩

theorem hasEarlierBind_iff {c : Cfg} {idx : Nat} {impl : Ty} :
    hasEarlierBind c idx impl = true ↔
      ∃ j y, j < idx ∧ c.items[j]? = some (.bind y impl) ∧ partOf c j = partOf c idx := by
  unfold hasEarlierBind
  rw [List.any_eq_true]
  constructor
  · rintro ⟨⟨y, j⟩, hm, hlt⟩
    have := mem_bindsOn.1 hm
    exact ⟨j, y, of_decide_eq_true hlt, this.1, this.2⟩
  · rintro ⟨j, y, hlt, hj, hk⟩
    exact ⟨(y, j), mem_bindsOn.2 ⟨hj, hk⟩, decide_eq_true hlt⟩

theorem mem_laterIfaces {c : Cfg} {idx : Nat} {impl : Ty} {y : Nat} :
    y ∈ laterIfaces c idx impl ↔
      ∃ q, idx < q ∧ c.items[q]? = some (.bind y impl) ∧ partOf c q = partOf c idx := by
  unfold laterIfaces
  rw [List.mem_map]
  constructor
  · rintro ⟨⟨y', q⟩, hm, rfl⟩
    rw [List.mem_filter] at hm
    have := mem_bindsOn.1 hm.1
    exact ⟨q, of_decide_eq_true hm.2, this.1, this.2⟩
  · rintro ⟨q, hlt, hq, hk⟩
    exact ⟨(y, q), List.mem_filter.2 ⟨mem_bindsOn.2 ⟨hq, hk⟩, decide_eq_true hlt⟩, rfl⟩

theorem migrateItem_bind_later {c : Cfg} {idx x : Nat} {impl : Ty} (h : hasEarlierBind c idx impl = true) :
    migrateItem c idx (.bind x impl) = some [] := by
  simp [migrateItem, h]

theorem migrateItem_bind_first {c : Cfg} {idx x n : Nat} {impl : Ty} {f : Func} (h : hasEarlierBind c idx impl = false)
    (hn : tyName impl = some n) (hf : c.pkgFuncs.find? (fun f => f.name == ctorName n) = some f) :
    migrateItem c idx (.bind x impl) = some [.bindProvide (x :: laterIfaces c idx impl) f] := by
  simp [migrateItem, h, hn, hf]

/-- the item a `Bind` ends up in -/
theorem bind_emitted {c : Cfg} {idx x n : Nat} {impl : Ty} {f : Func} (h : c.items[idx]? = some (.bind x impl))
    (hn : tyName impl = some n) (hf : c.pkgFuncs.find? (fun f => f.name == ctorName n) = some f) :
    ∃ j0 x0, j0 ≤ idx ∧ c.items[j0]? = some (.bind x0 impl) ∧ partOf c j0 = partOf c idx ∧
      migrateItem c j0 (.bind x0 impl) = some [.bindProvide (x0 :: laterIfaces c j0 impl) f] ∧
      x ∈ x0 :: laterIfaces c j0 impl := by
  induction idx using Nat.strongRecOn generalizing x with
  | _ idx ih =>
    cases he : hasEarlierBind c idx impl with
    | false => exact ⟨idx, x, Nat.le_refl _, h, rfl, migrateItem_bind_first he hn hf, List.mem_cons_self ..⟩
    | true =>
      -- an earlier `Bind` of the list ends up in an item emitted before it, which nests every later one
      obtain ⟨j, y, hlt, hj, hk⟩ := hasEarlierBind_iff.1 he
      obtain ⟨j0, x0, hle, hj0, hp0, hmig, _⟩ := ih j hlt hj
      exact ⟨j0, x0, Nat.le_of_lt (Nat.lt_of_le_of_lt hle hlt), hj0, hp0.trans hk, hmig,
        List.mem_cons_of_mem _ (mem_laterIfaces.2 ⟨idx, Nat.lt_of_le_of_lt hle hlt, h, (hp0.trans hk).symm⟩)⟩

theorem no_two_emitters {c : Cfg} {j j' x x' : Nat} {impl : Ty} {out' : List KItem} {b : KItem}
    (hj : c.items[j]? = some (.bind x impl)) (hlt : j < j') (hpart : partOf c j = partOf c j')
    (ho' : migrateItem c j' (.bind x' impl) = some out') (hb : b ∈ out') : False := by
  rw [migrateItem_bind_later (hasEarlierBind_iff.2 ⟨j, x, hlt, hj, hpart⟩)] at ho'
  cases ho'; cases hb

/-! ### `parts = []`: one element list -/

theorem partOf_nil_parts {c : Cfg} (h : c.parts = []) (i : Nat) : partOf c i = 0 := by
  rw [partOf, h]; rfl

/-- with `parts = []` the bound types seen by every item are those of **all** `Bind`s of the set -/
theorem mem_boundTypesIn_nil_parts {c : Cfg} (h : c.parts = []) (i : Nat) (t : Ty) :
    t ∈ boundTypesIn c (partOf c i) ↔ ∃ x, Item.bind x t ∈ c.items := by
  rw [mem_boundTypesIn]
  constructor
  · rintro ⟨j, x, hj, _⟩; exact ⟨x, List.mem_of_getElem? hj⟩
  · rintro ⟨x, hx⟩
    obtain ⟨j, hj⟩ := List.getElem?_of_mem hx
    exact ⟨j, x, hj, by rw [partOf_nil_parts h, partOf_nil_parts h]⟩

/-- conjunct 5 of `faithful` holds trivially when there is one element list -/
theorem bindTogether_nil_parts {c : Cfg} (h : c.parts = []) : bindTogether c = true := by
  unfold bindTogether
  rw [List.all_eq_true]
  intro p _
  split
  · rw [List.all_eq_true]
    intro q _
    split
    · simp [partOf_nil_parts h]
    · rfl
  · rfl

/-! ### `faithful` as propositions -/

/-- `t` is not the value form of a struct of the set -/
def okTy (c : Cfg) (t : Ty) : Prop := ∀ n fs, Item.structP n fs ∈ c.items → t ≠ .val n

structure Faithful (c : Cfg) : Prop where
  bindOk : ∀ i impl, Item.bind i impl ∈ c.items → ∃ n f, tyName impl = some n ∧
    c.pkgFuncs.find? (fun f => f.name == ctorName n) = some f ∧ f.result = impl ∧ Item.func f ∈ c.items
  fieldsPtr : ∀ n pf fs, Item.fieldsOf n pf fs ∈ c.items → pf = true
  uniq : ∀ a ∈ c.items, ∀ b ∈ c.items, ∀ t, t ∈ supplied a → t ∈ supplied b → a = b
  argsFresh : ∀ t ∈ c.args, ∀ a ∈ c.items, t ∉ supplied a
  retOk : okTy c c.ret
  consOk : ∀ a ∈ c.items, ∀ t ∈ consumed a, okTy c t
  /-- conjunct 5: a provider function of a bound implementation type sits in the `Bind`'s element list -/
  together : ∀ (j x : Nat) impl (m : Nat) f, c.items[j]? = some (.bind x impl) → c.items[m]? = some (.func f) → f.result = impl →
    partOf c m = partOf c j
  /-- conjunct 6 (`listedOnce`) by positions -/
  onceIdx : ∀ (i j : Nat) a b t, c.items[i]? = some a → c.items[j]? = some b → t ∈ supplied a → t ∈ supplied b → i = j
  supNodup : ∀ a ∈ c.items, (supplied a).Nodup

theorem Faithful.bindSameList {c : Cfg} (F : Faithful c) {i j x y : Nat} {impl : Ty}
    (hi : c.items[i]? = some (Item.bind x impl)) (hj : c.items[j]? = some (Item.bind y impl)) :
    partOf c i = partOf c j := by
  obtain ⟨n, f, _, _, hfr, hfi⟩ := F.bindOk x impl (List.mem_of_getElem? hi)
  obtain ⟨m, hm⟩ := List.getElem?_of_mem hfi
  rw [← F.together i x impl m f hi hm hfr, ← F.together j y impl m f hj hm hfr]

theorem structVal_false {c : Cfg} {t : Ty} (h : structVal c t = false) : okTy c t := by
  intro n fs hmem ht
  unfold structVal at h
  rw [List.any_eq_false] at h
  have := h _ hmem
  simp [ht] at this

theorem nodupTys_nodup : ∀ l : List Ty, nodupTys l = true → l.Nodup := by
  intro l
  induction l with
  | nil => intro _; exact List.nodup_nil
  | cons a r ih =>
    intro h
    rw [nodupTys, Bool.and_eq_true, Bool.not_eq_true', ← Bool.not_eq_true, List.contains_iff_mem] at h
    exact List.nodup_cons.2 ⟨h.1, ih h.2⟩

theorem bindTogether_spec {c : Cfg} (h : bindTogether c = true) :
    ∀ (j x : Nat) impl (m : Nat) f, c.items[j]? = some (.bind x impl) → c.items[m]? = some (.func f) → f.result = impl →
      partOf c m = partOf c j := by
  intro j x impl m f hj hm hr
  have h1 := List.all_eq_true.1 h (.bind x impl, j) (List.mem_zipIdx_iff_getElem?.2 hj)
  have h2 := List.all_eq_true.1 h1 (.func f, m) (List.mem_zipIdx_iff_getElem?.2 hm)
  simpa [hr] using h2

theorem listedOnce_spec {c : Cfg} (h : listedOnce c = true) :
    (∀ (i j : Nat) a b t, c.items[i]? = some a → c.items[j]? = some b → t ∈ supplied a → t ∈ supplied b → i = j) ∧
    (∀ a ∈ c.items, (supplied a).Nodup) := by
  unfold listedOnce at h
  have h1 := nodupTys_nodup _ h
  rw [List.nodup_iff_pairwise_ne, List.pairwise_flatMap] at h1
  refine ⟨?_, h1.1⟩
  intro i j a b t hi hj hta htb
  exact h1.2.eq_of_getElem? hi hj (fun h => h t hta t htb rfl) (fun h => h t htb t hta rfl)

theorem itemOk_bind {c : Cfg} {i : Nat} {impl : Ty} (h : itemOk c (.bind i impl) = true) :
    ∃ n f, tyName impl = some n ∧ c.pkgFuncs.find? (fun f => f.name == ctorName n) = some f ∧ f.result = impl ∧
      Item.func f ∈ c.items := by
  rw [itemOk] at h
  split at h
  · cases h
  · rename_i n hn
    split at h
    · rename_i f hf
      rw [Bool.and_eq_true, beq_iff_eq, List.contains_iff_mem] at h
      exact ⟨n, f, hn, hf, h.1, h.2⟩
    · cases h

theorem Faithful.of_bool {c : Cfg} (h : faithful c = true) : Faithful c := by
  simp only [faithful, Bool.and_eq_true, List.all_eq_true] at h
  obtain ⟨⟨⟨⟨⟨h1, _⟩, h3⟩, h4⟩, h5⟩, h6⟩ := h
  obtain ⟨h61, h62⟩ := listedOnce_spec h6
  have hok : ∀ t ∈ c.ret :: c.items.flatMap consumed, okTy c t :=
    fun t ht => structVal_false ((Bool.not_eq_true' _).mp (h4 t ht))
  refine ⟨fun i impl hm => itemOk_bind (h1 _ hm), fun n pf fs hm => h1 _ hm, ?_,
    fun t ht a ha hta => by simpa [hta] using h3 t ht a ha, hok _ (List.mem_cons_self ..),
    fun a ha t hta => hok t (List.mem_cons_of_mem _ (List.mem_flatMap.2 ⟨a, ha, hta⟩)), bindTogether_spec h5, h61, h62⟩
  -- two items that supply a common type sit at one position (conjunct 6), so they are one item
  intro a ha b hb t hta htb
  obtain ⟨i, hi⟩ := List.getElem?_of_mem ha
  obtain ⟨j, hj⟩ := List.getElem?_of_mem hb
  cases h61 i j a b t hi hj hta htb
  exact Option.some.inj (hi.symm.trans hj)

/-! ### the migrated declaration is not ambiguous -/

/-- no two positions of `ks` supply a common type -/
def KDisjoint (a b : KItem) : Prop := ∀ t, t ∈ kSupplied a → t ∉ kSupplied b

theorem kAmbiguous_false_iff (ks : List KItem) : kAmbiguous ks = false ↔ ks.Pairwise KDisjoint := by
  induction ks with
  | nil => exact ⟨fun _ => .nil, fun _ => rfl⟩
  | cons a r ih =>
    rw [kAmbiguous, Bool.or_eq_false_iff, List.pairwise_cons, ih]
    refine and_congr_left' ?_
    simp only [List.any_eq_false, List.any_eq_true, List.contains_iff_mem, KDisjoint, not_exists, not_and]

theorem migrateItem_faithful {c : Cfg} (F : Faithful c) {it : Item} (hit : it ∈ c.items) (j : Nat) :
    (∃ f, it = .func f ∧
      migrateItem c j it = some (if f.result ∈ boundTypesIn c (partOf c j) then [] else [.provide f])) ∨
    (∃ x f, it = .bind x f.result ∧ Item.func f ∈ c.items ∧
      migrateItem c j it =
        some (if hasEarlierBind c j f.result then [] else [.bindProvide (x :: laterIfaces c j f.result) f])) ∨
    (∃ n fs, it = .structP n fs ∧ migrateItem c j it = some [.provide ⟨mkPtrName n, fs, .ptr n⟩]) ∨
    (∃ n fs, it = .fieldsOf n true fs ∧
      migrateItem c j it = some (fs.map fun ft => .provide ⟨fieldName, [.ptr n], ft⟩)) := by
  cases it with
  | func f =>
    refine Or.inl ⟨f, rfl, ?_⟩
    simp only [migrateItem, List.contains_iff_mem]
    split <;> rfl
  | bind x impl =>
    obtain ⟨n, f, hn, hf, rfl, hfi⟩ := F.bindOk x impl hit
    refine Or.inr (Or.inl ⟨x, f, rfl, hfi, ?_⟩)
    cases he : hasEarlierBind c j f.result with
    | true => exact migrateItem_bind_later he
    | false => exact migrateItem_bind_first he hn hf
  | structP n fs => exact Or.inr (Or.inr (Or.inl ⟨n, fs, rfl, rfl⟩))
  | fieldsOf n pf fs =>
    cases F.fieldsPtr n pf fs hit
    exact Or.inr (Or.inr (Or.inr ⟨n, fs, rfl, rfl⟩))

/-- who supplies, in wire's set, a type supplied by a migrated item: either an item at a position `q ≥ j` — the item the
    migrated item came from (`q = j`; if that is a provider function, it was not dropped) or, for a nested interface, a later
    `Bind` on the same implementation in the same element list — or, for the implementation type of a `Bind`, the listed
    provider function the `Bind` stands for -/
theorem kItem_owner {c : Cfg} (F : Faithful c) {j : Nat} {it : Item} {out : List KItem} {a : KItem} {t : Ty}
    (hj : c.items[j]? = some it) (ho : migrateItem c j it = some out) (ha : a ∈ out) (ht : t ∈ kSupplied a) :
    (∃ q itq, c.items[q]? = some itq ∧ t ∈ supplied itq ∧
        (∀ f, itq = .func f → f.result ∉ boundTypesIn c (partOf c q)) ∧ j ≤ q ∧
        (q = j ∨ ∃ x y impl, it = .bind x impl ∧ itq = .bind y impl ∧ partOf c q = partOf c j)) ∨
    (∃ (x p : Nat) (f : Func), it = .bind x t ∧ c.items[p]? = some (.func f) ∧ f.result = t) := by
  rcases migrateItem_faithful F (List.mem_of_getElem? hj) j with
    ⟨f, rfl, h⟩ | ⟨x, f, rfl, hfi, h⟩ | ⟨n, fs, rfl, h⟩ | ⟨n, fs, rfl, h⟩ <;>
    obtain rfl := Option.some.inj (h.symm.trans ho)
  · split at ha
    · cases ha
    · rename_i hb
      cases List.mem_singleton.1 ha
      cases List.mem_singleton.1 ht
      exact Or.inl ⟨j, _, hj, List.mem_singleton_self _, fun g hg => by cases hg; exact hb, Nat.le_refl _, Or.inl rfl⟩
  · split at ha
    · cases ha
    · cases List.mem_singleton.1 ha
      rcases List.mem_cons.1 ht with rfl | ht
      · obtain ⟨p, hp⟩ := List.getElem?_of_mem hfi
        exact Or.inr ⟨x, p, f, rfl, hp, rfl⟩
      · obtain ⟨y, hy, rfl⟩ := List.mem_map.1 ht
        rcases List.mem_cons.1 hy with rfl | hy
        · exact Or.inl ⟨j, _, hj, List.mem_singleton_self _, fun _ h => Item.noConfusion h, Nat.le_refl _, Or.inl rfl⟩
        · obtain ⟨q, hlt, hq, hpart⟩ := mem_laterIfaces.1 hy
          exact Or.inl ⟨q, _, hq, List.mem_singleton_self _, fun _ h => Item.noConfusion h, Nat.le_of_lt hlt,
            Or.inr ⟨x, y, _, rfl, rfl, hpart⟩⟩
  · cases List.mem_singleton.1 ha
    cases List.mem_singleton.1 ht
    exact Or.inl ⟨j, _, hj, List.mem_cons_of_mem _ (List.mem_singleton_self _), fun _ h => Item.noConfusion h, Nat.le_refl _, Or.inl rfl⟩
  · obtain ⟨ft, hft, rfl⟩ := List.mem_map.1 ha
    cases List.mem_singleton.1 ht
    exact Or.inl ⟨j, _, hj, hft, fun _ h => Item.noConfusion h, Nat.le_refl _, Or.inl rfl⟩

theorem owner_clash {c : Cfg} (F : Faithful c) {j j' : Nat} {it : Item} {t : Ty} {x p : Nat} {f : Func}
    (hj : c.items[j]? = some it) (hj' : c.items[j']? = some (.bind x t))
    (hown : t ∈ supplied it) (hkept : ∀ g, it = .func g → g.result ∉ boundTypesIn c (partOf c j))
    (hp : c.items[p]? = some (.func f)) (hfr : f.result = t) : False := by
  have hjp : j = p := F.onceIdx j p it (.func f) t hj hp hown (hfr ▸ List.mem_singleton_self _)
  subst hjp
  rw [hj] at hp; cases hp
  have hpart := F.together j' x t j f hj' hj hfr
  exact hkept f rfl (by rw [hfr]; exact mem_boundTypesIn.2 ⟨j', x, hj', hpart.symm⟩)

theorem migrate_pairwise_disjoint {c : Cfg} (F : Faithful c) {ks : List KItem} (hm : migrate c = some ks) :
    ks.Pairwise KDisjoint := by
  apply migrate_pairwise hm KDisjoint
  · intro j it out hj ho
    have hit : it ∈ c.items := List.mem_of_getElem? hj
    rcases migrateItem_faithful F hit j with
      ⟨f, rfl, h⟩ | ⟨x, f, rfl, _, h⟩ | ⟨n, fs, rfl, h⟩ | ⟨n, fs, rfl, h⟩ <;>
      obtain rfl := Option.some.inj (h.symm.trans ho)
    · split <;> simp
    · split <;> simp
    · exact List.pairwise_singleton _ _
    · -- the fields of a `FieldsOf` are pairwise distinct, and each emitted item supplies its field type only
      rw [List.pairwise_map]
      exact (List.nodup_iff_pairwise_ne.1 (F.supNodup _ hit)).imp fun huv t htu htv =>
        huv ((List.mem_singleton.1 htu).symm.trans (List.mem_singleton.1 htv))
  · intro j j' it it' out out' hjj hj hj' ho ho' a ha b hb t hta htb
    rcases kItem_owner F hj ho ha hta with ⟨q, itq, hq, hown, hkept, hle, hwho⟩ | ⟨x, p, f, rfl, hp, hfr⟩
    · rcases kItem_owner F hj' ho' hb htb with ⟨q', itq', hq', hown', _, hle', hwho'⟩ | ⟨x', p', f', rfl, hp', hfr'⟩
      · have hqq := F.onceIdx q q' itq itq' t hq hq' hown hown'
        subst hqq
        rw [hq] at hq'; cases hq'
        rcases hwho with rfl | ⟨x, y, impl, rfl, rfl, hpart⟩
        · exact absurd hjj (Nat.not_lt.2 hle')
        · rcases hwho' with rfl | ⟨x', y', impl', rfl, hy', hpart'⟩
          · rw [hq] at hj'; cases hj'
            exact no_two_emitters hj hjj hpart.symm ho' hb
          · cases hy'
            exact no_two_emitters hj hjj (hpart.symm.trans hpart') ho' hb
      · exact owner_clash F hq hj' hown hkept hp' hfr'
    · rcases kItem_owner F hj' ho' hb htb with ⟨q', itq', hq', hown', hkept', _, _⟩ | ⟨x', p', f', rfl, hp', hfr'⟩
      · exact owner_clash F hq' hj hown' hkept' hp hfr
      · exact no_two_emitters hj hjj (F.bindSameList hj hj') ho' hb

/-! ### kessoku's supplier of a type -/

theorem kItemSup_supplied {t : Ty} {k : KItem} {w} (h : kItemSup t k = some w) : t ∈ kSupplied k := by
  cases k with
  | provide f => exact List.mem_singleton.2 (Option.ite_none_right_eq_some.1 h).1.symm
  | bindProvide is f => exact List.mem_cons.2 ((Option.ite_none_right_eq_some.1 h).1.imp_left Eq.symm)

theorem kSupplier_of_mem {ks : List KItem} (hd : ks.Pairwise KDisjoint) {k : KItem} (hk : k ∈ ks) {t : Ty} {v}
    (hs : kItemSup t k = some v) : kSupplier ks t = some v := by
  rw [kSupplier_eq]
  induction ks with
  | nil => cases hk
  | cons a r ih =>
    rw [List.pairwise_cons] at hd
    rw [List.findSome?_cons]
    rcases List.mem_cons.1 hk with rfl | hk
    · rw [hs]
    · cases ha : kItemSup t a with
      | none => exact ih hd.2 hk
      | some w => exact absurd (kItemSup_supplied hs) (hd.1 k hk t (kItemSup_supplied ha))

theorem kSupplier_args {c : Cfg} (F : Faithful c) {ks} (hm : migrate c = some ks) {t : Ty} (ht : t ∈ c.args) :
    kSupplier ks t = none := by
  rw [kSupplier_eq, List.findSome?_eq_none_iff]
  intro k hk
  cases hs : kItemSup t k with
  | none => rfl
  | some w =>
    obtain ⟨j, it, out, hj, ho, hko⟩ := (migrate_mem hm k).1 hk
    rcases kItem_owner F hj ho hko (kItemSup_supplied hs) with ⟨q, itq, hq, hsup, _⟩ | ⟨x, p, f, _, hp, hfr⟩
    · exact absurd hsup (F.argsFresh t ht itq (List.mem_of_getElem? hq))
    · exact absurd (hfr ▸ List.mem_singleton_self _) (F.argsFresh t ht _ (List.mem_of_getElem? hp))

/-- kessoku finds wire's supplier — except for the value form of a struct, which the migration does not emit -/
theorem kSupplier_of_wire {c : Cfg} (F : Faithful c) {ks} (hm : migrate c = some ks) {t : Ty} {it : Item}
    (hit : it ∈ c.items) (hok : ∀ n fs, it = .structP n fs → t ≠ .val n) {v} (hs : wireItemSup t it = some v) :
    kSupplier ks t = some v := by
  suffices h : ∃ k ∈ ks, kItemSup t k = some v by
    obtain ⟨k, hk, hkv⟩ := h
    exact kSupplier_of_mem (migrate_pairwise_disjoint F hm) hk hkv
  obtain ⟨idx, hidx⟩ := List.getElem?_of_mem hit
  rcases wireItemSup_some hs with
    ⟨f, rfl, rfl, rfl⟩ | ⟨n, fs, rfl, rfl, rfl⟩ | ⟨n, fs, rfl, rfl, rfl⟩ | ⟨n, pf, fs, rfl, hr, rfl⟩
  · by_cases hb : f.result ∈ boundTypesIn c (partOf c idx)
    · -- a bound result type: the function is the constructor the `Bind` names, emitted at the first such `Bind`
      obtain ⟨jb, j, hbj, _⟩ := mem_boundTypesIn.1 hb
      obtain ⟨n, g, hn, hg, hgr, hgi⟩ := F.bindOk j _ (List.mem_of_getElem? hbj)
      cases F.uniq _ hgi _ hit f.result (hgr ▸ List.mem_singleton_self _) (List.mem_singleton_self _)
      obtain ⟨j0, x0, _, hj0, _, hmig, _⟩ := bind_emitted hbj hn hg
      exact ⟨_, migrate_mem_intro hm hj0 hmig (List.mem_singleton_self _), if_pos (Or.inl rfl)⟩
    · exact ⟨.provide f, migrate_mem_intro hm hidx (if_neg (mt List.contains_iff_mem.1 hb)) (List.mem_singleton_self _),
        if_pos rfl⟩
  · exact absurd rfl (hok n fs rfl)
  · exact ⟨.provide ⟨mkPtrName n, fs, .ptr n⟩, migrate_mem_intro hm hidx rfl (List.mem_singleton_self _), if_pos rfl⟩
  · cases F.fieldsPtr n pf fs hit
    exact ⟨.provide ⟨fieldName, [.ptr n], t⟩, migrate_mem_intro hm hidx rfl (List.mem_map.2 ⟨t, hr, rfl⟩), if_pos rfl⟩

theorem kSupplier_bind {c : Cfg} (F : Faithful c) {ks} (hm : migrate c = some ks) {i : Nat} {impl : Ty}
    (hb : Item.bind i impl ∈ c.items) :
    ∃ f, Item.func f ∈ c.items ∧ f.result = impl ∧ kSupplier ks (.iface i) = some (f.name, f.params) := by
  obtain ⟨n, f, hn, hf, hfr, hfi⟩ := F.bindOk i impl hb
  obtain ⟨idx, hidx⟩ := List.getElem?_of_mem hb
  obtain ⟨j0, x0, _, hj0, _, hmig, hxi⟩ := bind_emitted hidx hn hf
  exact ⟨f, hfi, hfr, kSupplier_of_mem (migrate_pairwise_disjoint F hm)
    (migrate_mem_intro hm hj0 hmig (List.mem_singleton.2 rfl)) (if_pos (Or.inr (List.mem_map.2 ⟨i, hxi, rfl⟩)))⟩

theorem params_ok {c : Cfg} (F : Faithful c) {t : Ty} {it : Item} {name ps} (hit : it ∈ c.items)
    (hs : wireItemSup t it = some (name, ps)) : ∀ p ∈ ps, okTy c p := by
  rcases wireItemSup_some hs with
    ⟨f, rfl, _, h⟩ | ⟨n, fs, rfl, _, h⟩ | ⟨n, fs, rfl, _, h⟩ | ⟨n, pf, fs, rfl, _, h⟩ <;> cases h
  · exact F.consOk _ hit
  · exact F.consOk _ hit
  · exact F.consOk _ hit
  · -- the receiver is in pointer form
    cases F.fieldsPtr n pf fs hit
    intro p hp m fs' _ h
    cases List.mem_singleton.1 hp
    cases h

/-! ### the evaluators -/

theorem kEval_succ (ks : List KItem) (fuel : Nat) (t : Ty) : kEval ks (fuel + 1) t =
    match kSupplier ks t with
    | some (name, ps) => .call name (ps.map (kEval ks fuel))
    | none => .arg t := by rw [kEval]; rfl

theorem wireEval_succ (c : Cfg) (fuel : Nat) (t : Ty) : wireEval c (fuel + 1) t =
    if c.args.contains t then .arg t
    else match wireBinding c.items t with
      | some impl => wireEval c fuel impl
      | none =>
        match wireSupplier c.items t with
        | some (name, ps) => .call name (ps.map (wireEval c fuel))
        | none => .missing t := by rw [wireEval]; rfl

theorem not_NoBot_bot : ¬ NoBot V.bot := Bool.false_ne_true

/-- kessoku's evaluator, with any fuel that is at least wire's, computes wire's term.  (Through a `Bind` kessoku spends
    one unit where wire spends two, so the two fuels cannot be kept equal along the recursion.) -/
theorem kEval_eq_wireEval (c : Cfg) (F : Faithful c) (ks : List KItem) (hm : migrate c = some ks) :
    ∀ fuel fuel' t, fuel ≤ fuel' → okTy c t → NoBot (wireEval c fuel t) → NoMissing (wireEval c fuel t) →
      kEval ks fuel' t = wireEval c fuel t := by
  intro fuel
  induction fuel with
  | zero => intro _ t _ _ hb; exact absurd hb not_NoBot_bot
  | succ fuel ih =>
  intro fuel' t hle hok hb hmi
  obtain ⟨fuel', rfl⟩ := Nat.exists_eq_add_one.2 (Nat.lt_of_lt_of_le (Nat.succ_pos _) hle)
  rw [wireEval_succ] at hb hmi ⊢
  rw [kEval_succ]
  by_cases hargs : c.args.contains t = true
  · rw [if_pos hargs, kSupplier_args F hm (List.contains_iff_mem.1 hargs)]
  · rw [if_neg hargs] at hb hmi ⊢
    cases hbnd : wireBinding c.items t with
    | some impl =>
      simp only [hbnd] at hb hmi ⊢
      obtain ⟨i, rfl, hbmem⟩ := wireBinding_some hbnd
      obtain ⟨f, hfi, hfr, hks⟩ := kSupplier_bind F hm hbmem
      -- kessoku supplies the interface and the implementation by the same call; the latter is wire's
      have hki : kSupplier ks impl = some (f.name, f.params) := kSupplier_of_wire F hm hfi (fun _ _ h => Item.noConfusion h) (if_pos hfr)
      have hoki : okTy c impl := fun m fs hs e => by
        cases F.uniq _ hfi _ hs (.val m) (hfr.trans e ▸ List.mem_singleton_self _) (List.mem_cons_self ..)
      rw [← ih (fuel' + 1) impl (Nat.le_of_succ_le hle) hoki hb hmi, kEval_succ, hks, hki]
    | none =>
      simp only [hbnd] at hb hmi ⊢
      cases hsup : wireSupplier c.items t with
      | none => rw [hsup] at hmi; cases hmi
      | some v =>
        simp only [hsup] at hb hmi ⊢
        rw [wireSupplier_eq] at hsup
        obtain ⟨it, hit, hs⟩ := List.exists_of_findSome?_eq_some hsup
        simp only [kSupplier_of_wire F hm hit (fun n fs e => hok n fs (e ▸ hit)) hs]
        congr 1
        exact List.map_congr_left fun p hp =>
          ih fuel' p (Nat.le_of_succ_le_succ hle) (params_ok F hit hs p hp) (NoBot_call hb p hp) (NoMissing_call hmi p hp)

/-- **the migrated declaration of a faithful configuration is not refused as ambiguous** -/
theorem migrate_not_ambiguous (c : Cfg) (h : faithful c = true) (ks : List KItem) (hm : migrate c = some ks) :
    kAmbiguous ks = false :=
  (kAmbiguous_false_iff ks).2 (migrate_pairwise_disjoint (Faithful.of_bool h) hm)

theorem migrateChecked_of_migrate {c : Cfg} {ks : List KItem} (hm : migrate c = some ks) (ha : kAmbiguous ks = false) :
    migrateChecked c = some ks := by
  simp [migrateChecked, hm, ha]

theorem migrateChecked_some {c : Cfg} {ks : List KItem} (h : migrateChecked c = some ks) :
    migrate c = some ks ∧ kAmbiguous ks = false := by
  unfold migrateChecked at h
  split at h
  · rename_i ks' hm
    split at h
    · cases h
    · rename_i ha
      cases h
      exact ⟨hm, by simpa using ha⟩
  · cases h

/-! ### main theorems -/

theorem migrate_faithful_some (c : Cfg) (h : faithful c = true) : (migrate c).isSome := by
  apply migrateFrom_some
  intro p hp
  have hit : p.1 ∈ c.items := List.mem_of_getElem? (List.mem_zipIdx_iff_getElem?.1 hp)
  rcases migrateItem_faithful (Faithful.of_bool h) hit p.2 with
    ⟨_, _, h⟩ | ⟨_, _, _, _, h⟩ | ⟨_, _, _, h⟩ | ⟨_, _, _, h⟩ <;> rw [h] <;> rfl

/-- **Faithfulness of the migration**, for every requested type `t` that is not the value form `T` of a listed
    `wire.Struct(new(T), …)` (that hypothesis is necessary: see `C13.cfgValRequest`). -/
theorem migrate_faithful (c : Cfg) (h : faithful c = true) (ks : List KItem) (hm : migrate c = some ks) :
    ∀ fuel t, structVal c t = false → NoBot (wireEval c fuel t) → NoMissing (wireEval c fuel t) →
      kEval ks fuel t = wireEval c fuel t :=
  fun fuel t ht => kEval_eq_wireEval c (Faithful.of_bool h) ks hm fuel fuel t (Nat.le_refl _) (structVal_false ht)

/-- the injector's own result type needs no side condition: `faithful` already forbids requesting a struct value -/
theorem migrate_faithful_ret (c : Cfg) (h : faithful c = true) (ks : List KItem) (hm : migrate c = some ks) :
    ∀ fuel, NoBot (wireEval c fuel c.ret) → NoMissing (wireEval c fuel c.ret) →
      kEval ks fuel c.ret = wireEval c fuel c.ret :=
  fun fuel => kEval_eq_wireEval c (Faithful.of_bool h) ks hm fuel fuel c.ret (Nat.le_refl _) (Faithful.of_bool h).retOk

/-! ### in the vocabulary of `C13_statement` -/

theorem migratedEval_of_migrate {c : Cfg} {ks : List KItem} (hm : migrate c = some ks) (ha : kAmbiguous ks = false)
    (fuel : Nat) : migratedEval c fuel = kEval ks fuel c.ret := by
  simp [migratedEval, migrateChecked_of_migrate hm ha]

/-- on a faithful configuration the migration is not refused — neither by `kessoku migrate` nor, as ambiguous, by kessoku -/
theorem migrateChecked_faithful_some (c : Cfg) (h : faithful c = true) : (migrateChecked c).isSome := by
  obtain ⟨ks, hm⟩ := Option.isSome_iff_exists.1 (migrate_faithful_some c h)
  rw [migrateChecked_of_migrate hm (migrate_not_ambiguous c h ks hm)]; rfl

theorem migratedEval_faithful (c : Cfg) (h : faithful c = true) :
    (migrate c).isSome ∧
    ∀ fuel, NoBot (wireEval c fuel c.ret) → NoMissing (wireEval c fuel c.ret) →
      migratedEval c fuel = wireEval c fuel c.ret := by
  have hs := migrate_faithful_some c h
  refine ⟨hs, ?_⟩
  obtain ⟨ks, hm⟩ := Option.isSome_iff_exists.1 hs
  intro fuel hb hmi
  rw [migratedEval_of_migrate hm (migrate_not_ambiguous c h ks hm)]
  exact migrate_faithful_ret c h ks hm fuel hb hmi

mutual
theorem V.beq_refl : ∀ v : V, V.beq v v = true
  | .arg a => by simp [V.beq]
  | .call n as => by simp [V.beq, V.beqL_refl as]
  | .missing a => by simp [V.beq]
  | .bot => by simp [V.beq]
theorem V.beqL_refl : ∀ l : List V, V.beqL l l = true
  | [] => by simp [V.beqL]
  | a :: as => by simp [V.beqL, V.beq_refl a, V.beqL_refl as]
end

end Wire
