import KV.ListLemmas
/-! The fault-free micro-op semantics of an injector body: one list of ops per thread (thread 0 is the injector,
the others its goroutines), a state is the vector of program counters, a wait is enabled once its channel is
closed, `eg.Wait` once every goroutine is done.  Well-formedness (`WF`, `WFData`) is stated with a rank function,
membership and `List.Pairwise`, so that the emission (a `flatMap` over node blocks, `KV/Emit.lean`) discharges it.
Of every well-formed program: `progress`, `enter_after_writes`, `no_race`; of every program: `steps_bounded`. -/

namespace T1

inductive Op where
  | wait  (o : Nat) (c : Nat)
  | enter (o : Nat) (args : List Nat)
  | exit  (o : Nat) (rets : List Nat)
  | close (o : Nat) (c : Nat)
  | spawn (g : Nat)
  | egwait
  | ret (v : Nat)
deriving DecidableEq, Repr

structure Prog where
  threads : List (List Op)

abbrev Pcs := List Nat

def thread (P : Prog) (t : Nat) : List Op := P.threads.getD t []
def opAt (P : Prog) (t j : Nat) : Option Op := (thread P t)[j]?
def pc (s : Pcs) (t : Nat) : Nat := s.getD t 0

def closed (P : Prog) (s : Pcs) (c : Nat) : Prop :=
  ∃ t j o, opAt P t j = some (.close o c) ∧ j < pc s t
def spawned (P : Prog) (s : Pcs) (g : Nat) : Prop :=
  g = 0 ∨ ∃ j, opAt P 0 j = some (.spawn g) ∧ j < pc s 0
def threadDone (P : Prog) (s : Pcs) (t : Nat) : Prop := (thread P t).length ≤ pc s t

def enabledOp (P : Prog) (s : Pcs) : Op → Prop
  | .wait _ c => closed P s c
  | .egwait => ∀ g, 0 < g → g < P.threads.length → threadDone P s g
  | _ => True

def Enabled (P : Prog) (s : Pcs) (t : Nat) : Prop :=
  t < P.threads.length ∧ ∃ op, opAt P t (pc s t) = some op ∧ spawned P s t ∧ enabledOp P s op

def bump (s : Pcs) (t : Nat) : Pcs := s.set t (pc s t + 1)

inductive Reach (P : Prog) : Pcs → Prop
  | init : Reach P (List.replicate P.threads.length 0)
  | step {s t} : Reach P s → Enabled P s t → Reach P (bump s t)

open KV.Threads

theorem pc_bump_self {s : Pcs} {t : Nat} (h : t < s.length) : pc (bump s t) t = pc s t + 1 := getD_bump_self h

theorem pc_bump_other {s : Pcs} {t u : Nat} (h : u ≠ t) : pc (bump s t) u = pc s u := List.getD_set_ne _ _ (Ne.symm h)

theorem pc_le_bump (s : Pcs) (t u : Nat) : pc s u ≤ pc (bump s t) u := getD_le_bump s t u

theorem lt_pc_bump {s : Pcs} {t : Nat} (h : t < s.length) (u j : Nat) :
    j < pc (bump s t) u ↔ j < pc s u ∨ (u = t ∧ j = pc s t) := lt_getD_bump h u j

theorem init_pc (n t : Nat) : pc (List.replicate n 0) t = 0 := List.getD_replicate_self

theorem reach_length {P : Prog} {s : Pcs} (h : Reach P s) : s.length = P.threads.length := by
  induction h with
  | init => simp
  | step _ _ ih => simpa [bump] using ih

theorem pc_le_length {P : Prog} {s : Pcs} (h : Reach P s) (t : Nat) : pc s t ≤ (thread P t).length := by
  induction h with
  | init => rw [init_pc]; exact Nat.zero_le _
  | @step s u hr he ih =>
    by_cases hu : t = u
    · subst hu
      rw [pc_bump_self (by rw [reach_length hr]; exact he.1)]
      obtain ⟨_, op, hop, _⟩ := he
      exact List.lt_length_of_getElem? hop
    · rw [pc_bump_other hu]; exact ih

theorem closed_mono {P : Prog} {s : Pcs} {t c : Nat} (h : closed P s c) : closed P (bump s t) c := by
  obtain ⟨t', j, o, h1, h2⟩ := h
  exact ⟨t', j, o, h1, Nat.lt_of_lt_of_le h2 (pc_le_bump s t t')⟩

theorem threadDone_mono {P : Prog} {s : Pcs} {t g : Nat} (h : threadDone P s g) : threadDone P (bump s t) g :=
  Nat.le_trans h (pc_le_bump s t g)

theorem enabledOp_mono {P : Prog} {s : Pcs} {t : Nat} {op : Op} (h : enabledOp P s op) : enabledOp P (bump s t) op := by
  cases op with
  | wait o c => exact closed_mono h
  | egwait => exact fun g h0 hl => threadDone_mono (h g h0 hl)
  | _ => trivial

/-- the counters carry the history of a run: an op below a counter was enabled when it was executed, and
    enabledness is monotone -/
theorem executed_enabled {P : Prog} {s : Pcs} (h : Reach P s) {t j : Nat} {op : Op}
    (hj : j < pc s t) (hop : opAt P t j = some op) : enabledOp P s op := by
  induction h with
  | init => rw [init_pc] at hj; exact absurd hj (Nat.not_lt_zero j)
  | @step s u hr he ih =>
    apply enabledOp_mono
    rcases (lt_pc_bump (by rw [reach_length hr]; exact he.1) t j).mp hj with h | ⟨rfl, rfl⟩
    · exact ih h
    · obtain ⟨_, op', hop', _, hen⟩ := he
      rw [hop] at hop'; cases hop'; exact hen

theorem opAt_mem {P : Prog} {t j : Nat} {op : Op} (h : opAt P t j = some op) : op ∈ thread P t :=
  List.mem_of_getElem? h

theorem mem_opAt {P : Prog} {t : Nat} {op : Op} (h : op ∈ thread P t) : ∃ j, opAt P t j = some op :=
  List.mem_iff_getElem?.mp h

theorem thread_lt_of_mem {P : Prog} {t : Nat} {op : Op} (h : op ∈ thread P t) : t < P.threads.length :=
  List.lt_length_of_mem_getD h

theorem lt_of_opAt {P : Prog} {t j : Nat} {op : Op} (h : opAt P t j = some op) : t < P.threads.length :=
  thread_lt_of_mem (opAt_mem h)

/-! ### well-formedness, progress -/

structure WF (P : Prog) (rank : Op → Nat) : Prop where
  sorted : ∀ t, (thread P t).Pairwise (fun a b => rank a ≤ rank b)
  waitClose : ∀ t o c, Op.wait o c ∈ thread P t →
    ∃ t' o', Op.close o' c ∈ thread P t' ∧ rank (.close o' c) < rank (.wait o c)
  spawnBefore : ∀ g, 0 < g → g < P.threads.length →
    Op.spawn g ∈ thread P 0 ∧ ∀ op ∈ thread P g, rank (.spawn g) < rank op
  egwaitAfter : ∀ g, 0 < g → ∀ op ∈ thread P g, rank op < rank .egwait
  egwaitMain : ∀ t, Op.egwait ∈ thread P t → t = 0

def Pending (P : Prog) (s : Pcs) (t : Nat) (op : Op) : Prop :=
  t < P.threads.length ∧ opAt P t (pc s t) = some op

theorem blocked_has_lower {P : Prog} {rank : Op → Nat} (hw : WF P rank) {s : Pcs} {t : Nat} {op : Op}
    (hp : Pending P s t op) (hne : ¬ Enabled P s t) :
    ∃ u b, Pending P s u b ∧ rank b < rank op := by
  obtain ⟨htl, hop⟩ := hp
  by_cases hsp : spawned P s t
  · have hop' : ¬ enabledOp P s op := fun h => hne ⟨htl, op, hop, hsp, h⟩
    cases op with
    | wait o c =>
      obtain ⟨t', o', hcl, hr⟩ := hw.waitClose t o c (opAt_mem hop)
      obtain ⟨j', hj'⟩ := mem_opAt hcl
      -- the close has not been executed, so the thread of the closer is at or before it
      obtain ⟨a, ha, hle⟩ := List.exists_rank_le_of_idx_le (hw.sorted t') hj'
        (Nat.le_of_not_lt fun h => hop' ⟨t', j', o', hj', h⟩)
      exact ⟨t', a, ⟨thread_lt_of_mem hcl, ha⟩, Nat.lt_of_le_of_lt hle hr⟩
    | egwait =>
      obtain ⟨g, hg0, hgl, hnd⟩ : ∃ g, 0 < g ∧ g < P.threads.length ∧ ¬ threadDone P s g :=
        Classical.byContradiction fun hc => hop' fun g h1 h2 => Classical.byContradiction fun h3 => hc ⟨g, h1, h2, h3⟩
      simp only [threadDone, Nat.not_le] at hnd
      exact ⟨g, (thread P g)[pc s g], ⟨hgl, List.getElem?_eq_getElem hnd⟩,
        hw.egwaitAfter g hg0 _ (List.getElem_mem hnd)⟩
    | _ => exact absurd trivial hop'
  · have ht0 : 0 < t := Nat.pos_of_ne_zero fun h => hsp (Or.inl h)
    obtain ⟨hsm, hrk⟩ := hw.spawnBefore t ht0 htl
    obtain ⟨j, hj⟩ := mem_opAt hsm
    obtain ⟨a, ha, hle⟩ := List.exists_rank_le_of_idx_le (hw.sorted 0) hj
      (Nat.le_of_not_lt fun h => hsp (Or.inr ⟨j, hj, h⟩))
    exact ⟨0, a, ⟨thread_lt_of_mem hsm, ha⟩, Nat.lt_of_le_of_lt hle (hrk op (opAt_mem hop))⟩

theorem progress {P : Prog} {rank : Op → Nat} (hw : WF P rank) {s : Pcs}
    (hp : ∃ t op, Pending P s t op) : ∃ t, Enabled P s t :=
  exists_of_rank_descent rank
    (fun t _ ht => (Classical.em (Enabled P s t)).imp (fun he => ⟨t, he⟩) (blocked_has_lower hw ht)) hp

/-- "when it returns, every goroutine it started has already finished": `ret` is reached only after `egwait`,
    which is enabled only when every goroutine is done -/
theorem joined_at_ret {P : Prog} {rank : Op → Nat} (hw : WF P rank) {s : Pcs} (hr : Reach P s) {v : Nat}
    (hret : opAt P 0 (pc s 0) = some (.ret v)) (heg : Op.egwait ∈ thread P 0) (hrk : rank .egwait < rank (.ret v))
    {g : Nat} (hg : 0 < g) (hgl : g < P.threads.length) : threadDone P s g :=
  let ⟨_, hj⟩ := mem_opAt heg
  executed_enabled hr (List.idx_lt_of_rank_lt (hw.sorted _) hj hret hrk) hj g hg hgl

/-! ### ordering, race freedom -/

structure WFData (P : Prog) (rank : Op → Nat) (isParam : Nat → Prop) : Prop where
  reads : ∀ t o args v, Op.enter o args ∈ thread P t → v ∈ args → ¬ isParam v →
    ∃ t' o' rets, Op.exit o' rets ∈ thread P t' ∧ v ∈ rets ∧
      ((t' = t ∧ rank (.exit o' rets) < rank (.enter o args)) ∨
       (∃ ow, Op.wait ow v ∈ thread P t ∧ rank (.wait ow v) < rank (.enter o args)) ∧
        (∃ oc, Op.close oc v ∈ thread P t' ∧ rank (.exit o' rets) < rank (.close oc v)))
  closeUnique : ∀ c t o t' o', Op.close o c ∈ thread P t → Op.close o' c ∈ thread P t' → t = t' ∧ o = o'
  exitStrict : ∀ t, (thread P t).Pairwise (fun a b => ∀ o rets, a = Op.exit o rets → b ≠ Op.exit o rets)
  singleWriter : ∀ v t o rets t' o' rets', Op.exit o rets ∈ thread P t → v ∈ rets →
    Op.exit o' rets' ∈ thread P t' → v ∈ rets' → t = t' ∧ o = o' ∧ rets = rets'

def written (P : Prog) (s : Pcs) (v : Nat) : Prop :=
  ∃ t j o rets, opAt P t j = some (.exit o rets) ∧ v ∈ rets ∧ j < pc s t

theorem exit_pos_unique {P : Prog} {rank : Op → Nat} {isParam : Nat → Prop} (hd : WFData P rank isParam)
    {t i j o : Nat} {rets : List Nat} (hi : opAt P t i = some (.exit o rets)) (hj : opAt P t j = some (.exit o rets)) :
    i = j :=
  (hd.exitStrict t).eq_of_getElem? hi hj (fun h => h o rets rfl rfl) (fun h => h o rets rfl rfl)

theorem enter_after_writes {P : Prog} {rank : Op → Nat} {isParam : Nat → Prop}
    (hw : WF P rank) (hd : WFData P rank isParam) {s : Pcs} (hr : Reach P s)
    {t o : Nat} {args : List Nat} {v : Nat}
    (hop : opAt P t (pc s t) = some (.enter o args)) (hv : v ∈ args) (hnp : ¬ isParam v) :
    written P s v := by
  obtain ⟨t', o', rets, hex, hvr, hcase⟩ := hd.reads t o args v (opAt_mem hop) hv hnp
  obtain ⟨i, hi⟩ := mem_opAt hex
  rcases hcase with ⟨rfl, hrk⟩ | ⟨⟨ow, hwt, hrw⟩, ⟨oc, hcl, hrc⟩⟩
  · exact ⟨t', i, o', rets, hi, hvr, List.idx_lt_of_rank_lt (hw.sorted _) hi hop hrk⟩
  · -- the wait for `v` was executed, so its channel is closed; the close comes after the exit
    obtain ⟨jw, hjw⟩ := mem_opAt hwt
    obtain ⟨t'', k, oc', hk, hklt⟩ : closed P s v := executed_enabled hr (List.idx_lt_of_rank_lt (hw.sorted _) hjw hop hrw) hjw
    obtain ⟨rfl, rfl⟩ := hd.closeUnique v t' oc t'' oc' hcl (opAt_mem hk)
    exact ⟨t', i, o', rets, hi, hvr, Nat.lt_trans (List.idx_lt_of_rank_lt (hw.sorted _) hi hk hrc) hklt⟩

theorem no_race {P : Prog} {rank : Op → Nat} {isParam : Nat → Prop}
    (hw : WF P rank) (hd : WFData P rank isParam) {s : Pcs} (hr : Reach P s)
    {t t' o o' : Nat} {args rets : List Nat} {v : Nat}
    (hrd : opAt P t (pc s t) = some (.enter o args)) (hv : v ∈ args) (hnp : ¬ isParam v)
    (hwr : opAt P t' (pc s t') = some (.exit o' rets)) (hv' : v ∈ rets) : False := by
  obtain ⟨t'', i, o'', rets'', hi, hvr, hlt⟩ := enter_after_writes hw hd hr hrd hv hnp
  obtain ⟨h1, h2, h3⟩ := hd.singleWriter v t'' o'' rets'' t' o' rets (opAt_mem hi) hvr (opAt_mem hwr) hv'
  subst h1; subst h2; subst h3
  exact Nat.ne_of_lt hlt (exit_pos_unique hd hi hwr)

/-! ### termination: each step moves one counter by one, and no counter passes the end of its thread -/

inductive ReachN (P : Prog) : Nat → Pcs → Prop
  | init : ReachN P 0 (List.replicate P.threads.length 0)
  | step {n s t} : ReachN P n s → Enabled P s t → ReachN P (n + 1) (bump s t)

def total (P : Prog) : Nat := (P.threads.map List.length).sum

theorem ReachN.reach {P : Prog} {n : Nat} {s : Pcs} (h : ReachN P n s) : Reach P s := by
  induction h with
  | init => exact .init
  | step _ he ih => exact .step ih he

theorem sum_reachN {P : Prog} {n : Nat} {s : Pcs} (h : ReachN P n s) : s.sum = n := by
  induction h with
  | init => rw [List.sum_replicate_nat, Nat.mul_zero]
  | @step n s t hr he ih =>
    rw [← ih]
    exact KV.Threads.sum_bump (by rw [reach_length hr.reach]; exact he.1)

/-- **C03, termination**: a run can take at most `total P` steps. -/
theorem steps_bounded {P : Prog} {n : Nat} {s : Pcs} (h : ReachN P n s) : n ≤ total P := by
  rw [← sum_reachN h]
  refine List.sum_le_sum_of_getD_le fun t => ?_
  rw [show (P.threads.map List.length).getD t 0 = (thread P t).length from List.getD_map (d := []) List.length]
  exact pc_le_length h.reach t

end T1
