import KV.BfsFacts
/-! C02 groundwork: the value that the graph built by the BFS of `NewGraph` wires into every argument slot is the
    reference evaluation (by type key) of that slot's type.  Values are Herbrand terms. -/
namespace KV

inductive Val where
  | arg (t : Nat)
  | app (p gi : Nat) (args : List Val)

mutual
/-- reference evaluation "one provider at a time, arguments selected by type key" -/
inductive Eval (provs : List PSpec) (sup : SupMap) : Nat → Val → Prop
  | arg {t : Nat} : sup.lookup t = none → Eval provs sup t (.arg t)
  | app {t p gi : Nat} {vs : List Val} : sup.lookup t = some (p, gi) →
      EvalL provs sup (provs.getD p default).requires vs → Eval provs sup t (.app p gi vs)
inductive EvalL (provs : List PSpec) (sup : SupMap) : List Nat → List Val → Prop
  | nil : EvalL provs sup [] []
  | cons {t : Nat} {ts : List Nat} {v : Val} {vs : List Val} :
      Eval provs sup t v → EvalL provs sup ts vs → EvalL provs sup (t :: ts) (v :: vs)
end

theorem Eval.induct {provs : List PSpec} {sup : SupMap} {P : Nat → Val → Prop} {PL : List Nat → List Val → Prop}
    (arg : ∀ {t}, sup.lookup t = none → P t (.arg t))
    (app : ∀ {t p gi vs}, sup.lookup t = some (p, gi) → PL (provs.getD p default).requires vs → P t (.app p gi vs))
    (nil : PL [] []) (cons : ∀ {t ts v vs}, P t v → PL ts vs → PL (t :: ts) (v :: vs)) :
    (∀ {t v}, Eval provs sup t v → P t v) ∧ (∀ {ts vs}, EvalL provs sup ts vs → PL ts vs) :=
  ⟨fun h => Eval.rec (motive_1 := fun t v _ => P t v) (motive_2 := fun ts vs _ => PL ts vs)
      arg (fun hl _ => app hl) nil (fun _ _ => cons) h,
   fun h => EvalL.rec (motive_1 := fun t v _ => P t v) (motive_2 := fun ts vs _ => PL ts vs)
      arg (fun hl _ => app hl) nil (fun _ _ => cons) h⟩

mutual
/-- the value the planned graph wires out of (node `n`, result group `gi`) -/
inductive NVal (nodes : List Node) (edges : List (List Edge)) (reqs : Nat → List Nat) : Nat → Nat → Val → Prop
  | arg {n : Nat} : (nodes.getD n default).isArg = true → NVal nodes edges reqs n 0 (.arg (nodes.getD n default).ty)
  | app {n gi : Nat} {vs : List Val} : (nodes.getD n default).isArg = false →
      NSlots nodes edges reqs n 0 vs → NVal nodes edges reqs n gi (.app (nodes.getD n default).prov gi vs)
/-- values of the argument slots `i, i+1, …` of node `n` -/
inductive NSlots (nodes : List Node) (edges : List (List Edge)) (reqs : Nat → List Nat) : Nat → Nat → List Val → Prop
  | done {n i : Nat} : i = (reqs n).length → NSlots nodes edges reqs n i []
  | slot {n i n2 : Nat} {e : Edge} {v : Val} {vs : List Val} : i < (reqs n).length →
      e ∈ edges.getD n2 [] → e.dst = n → e.slot = i →
      NVal nodes edges reqs n2 e.src v → NSlots nodes edges reqs n (i + 1) vs → NSlots nodes edges reqs n i (v :: vs)
end

/-- provenance in graph form -/
def GProv (provs : List PSpec) (sup : SupMap) (nodes : List Node) (edges : List (List Edge)) (reqs : Nat → List Nat) : Prop :=
  ∀ n2 e, e ∈ edges.getD n2 [] → ∃ t, (reqs e.dst)[e.slot]? = some t ∧
    ((∃ p gi, sup.lookup t = some (p, gi) ∧ (nodes.getD n2 default).isArg = false ∧ (nodes.getD n2 default).prov = p ∧ e.src = gi) ∨
     (sup.lookup t = none ∧ (nodes.getD n2 default).isArg = true ∧ (nodes.getD n2 default).ty = t ∧ e.src = 0))

/-- node `n`, read at result group `gi`, stands for key `t` -/
def Stands (sup : SupMap) (nodes : List Node) (n gi t : Nat) : Prop :=
  (∃ p, sup.lookup t = some (p, gi) ∧ (nodes.getD n default).isArg = false ∧ (nodes.getD n default).prov = p) ∨
  (sup.lookup t = none ∧ (nodes.getD n default).isArg = true ∧ (nodes.getD n default).ty = t)

/-- One induction over the two mutually defined wirings: each constructor of `NVal` / `NSlots` is matched by the
    constructor of `Eval` / `EvalL` for the key the producer stands for. -/
theorem nval_nslots_eval {provs : List PSpec} {sup : SupMap} {nodes : List Node} {edges : List (List Edge)}
    {reqs : Nat → List Nat} (hg : GProv provs sup nodes edges reqs)
    (hreq : ∀ n, (nodes.getD n default).isArg = false → reqs n = (provs.getD (nodes.getD n default).prov default).requires) :
    (∀ {n gi : Nat} {v : Val}, NVal nodes edges reqs n gi v → ∀ t, Stands sup nodes n gi t → Eval provs sup t v) ∧
    (∀ {n i : Nat} {vs : List Val}, NSlots nodes edges reqs n i vs → EvalL provs sup ((reqs n).drop i) vs) := by
  have arg : ∀ {n : Nat}, (nodes.getD n default).isArg = true → ∀ t, Stands sup nodes n 0 t →
      Eval provs sup t (.arg (nodes.getD n default).ty) := by
    intro n ha t hp
    rcases hp with ⟨p, _, hna, _⟩ | ⟨hl, _, hty⟩
    · rw [ha] at hna; cases hna
    · rw [hty]; exact Eval.arg hl
  have app : ∀ {n gi : Nat} {vs : List Val}, (nodes.getD n default).isArg = false →
      EvalL provs sup ((reqs n).drop 0) vs → ∀ t, Stands sup nodes n gi t →
      Eval provs sup t (.app (nodes.getD n default).prov gi vs) := by
    intro n gi vs hna hs t hp
    rcases hp with ⟨p, hl, _, hprov⟩ | ⟨_, ha, _⟩
    · rw [List.drop_zero, hreq n hna] at hs
      rw [hprov] at hs ⊢
      exact Eval.app hl hs
    · rw [hna] at ha; cases ha
  have done : ∀ {n i : Nat}, i = (reqs n).length → EvalL provs sup ((reqs n).drop i) [] := by
    intro n i hi
    rw [hi, List.drop_length]; exact EvalL.nil
  have slot : ∀ {n i n2 : Nat} {e : Edge} {v : Val} {vs : List Val}, i < (reqs n).length → e ∈ edges.getD n2 [] →
      e.dst = n → e.slot = i → (∀ t, Stands sup nodes n2 e.src t → Eval provs sup t v) →
      EvalL provs sup ((reqs n).drop (i + 1)) vs → EvalL provs sup ((reqs n).drop i) (v :: vs) := by
    intro n i n2 e v vs hil he hd hsl hv hrest
    obtain ⟨t, ht, hp⟩ := hg n2 e he
    rw [hd, hsl, List.getElem?_eq_getElem hil] at ht
    rw [List.drop_eq_getElem_cons hil, Option.some.inj ht]
    refine EvalL.cons (hv t ?_) hrest
    rcases hp with ⟨p, gi, hl, hna, hpr, hsrc⟩ | ⟨hl, ha, hty, _⟩
    · exact Or.inl ⟨p, by rw [hsrc]; exact hl, hna, hpr⟩
    · exact Or.inr ⟨hl, ha, hty⟩
  exact ⟨fun h => NVal.rec (motive_1 := fun n gi v _ => ∀ t, Stands sup nodes n gi t → Eval provs sup t v)
      (motive_2 := fun n i vs _ => EvalL provs sup ((reqs n).drop i) vs)
      arg (fun hna _ => app hna) done (fun hil he hd hsl _ _ => slot hil he hd hsl) h,
    fun h => NSlots.rec (motive_1 := fun n gi v _ => ∀ t, Stands sup nodes n gi t → Eval provs sup t v)
      (motive_2 := fun n i vs _ => EvalL provs sup ((reqs n).drop i) vs)
      arg (fun hna _ => app hna) done (fun hil he hd hsl _ _ => slot hil he hd hsl) h⟩

theorem nslots_eval {provs : List PSpec} {sup : SupMap} {nodes : List Node} {edges : List (List Edge)}
    {reqs : Nat → List Nat} (hg : GProv provs sup nodes edges reqs)
    (hreq : ∀ n, (nodes.getD n default).isArg = false → reqs n = (provs.getD (nodes.getD n default).prov default).requires) :
    ∀ {n i : Nat} {vs : List Val}, NSlots nodes edges reqs n i vs → EvalL provs sup ((reqs n).drop i) vs :=
  (nval_nslots_eval hg hreq).2

/-- **C02 core**: in the graph built by the BFS, whatever value the wiring delivers out of the node
    that supplies key `t` (as result group `gi`) is the reference evaluation of `t`. -/
theorem bfs_value_is_reference {provs : List PSpec} {sup : SupMap} (hsup : SupOK provs sup) (rp : Nat) {n gi : Nat} {v : Val}
    (hv : NVal (bfsLoop provs sup (bfsFuel provs) (bfsInit rp)).nodes (bfsLoop provs sup (bfsFuel provs) (bfsInit rp)).edges
      (reqOf provs (bfsLoop provs sup (bfsFuel provs) (bfsInit rp))) n gi v)
    (t : Nat)
    (hp : (∃ p, sup.lookup t = some (p, gi) ∧
            ((bfsLoop provs sup (bfsFuel provs) (bfsInit rp)).nodes.getD n default).isArg = false ∧
            ((bfsLoop provs sup (bfsFuel provs) (bfsInit rp)).nodes.getD n default).prov = p) ∨
          (sup.lookup t = none ∧ ((bfsLoop provs sup (bfsFuel provs) (bfsInit rp)).nodes.getD n default).isArg = true ∧
            ((bfsLoop provs sup (bfsFuel provs) (bfsInit rp)).nodes.getD n default).ty = t)) :
    Eval provs sup t v := by
  have hP : GProv provs sup _ _ (reqOf provs _) := (bfsLoop_facts hsup rp (bfsFuel provs)).prov
  exact (nval_nslots_eval hP (reqOf_spec provs _)).1 hv t hp

end KV
