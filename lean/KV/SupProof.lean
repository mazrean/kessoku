import KV.StructRounds
import KV.SupIns
import KV.PlanBasics
/-! # Struct expansion (`pass2` of `NewGraph`), specified

An accepted `pass2` is the ordered expansion of a reordering of the `Struct` providers (`KV/StructRounds.lean`), and
that has a closed form (`KV/StructExpand.lean`): `pass2_closed`.  From it: what the expansion does to lookups
(`pass2_spec`, `pass2_field`, `pass2_structs`), why it fails (`pass2_err`), when it succeeds (`pass2_ok_iff`: a
condition on the *set* of struct providers, `Avail`), and that the supplier map keeps pointing at result groups that
exist (`SupOK`: `pass1_ok`, `pass2_ok`). -/
namespace KV

theorem pass2_closed {sps provs : List PSpec} {m : SupMap} {r : List PSpec × SupMap} (h : pass2 sps provs m = .ok r) :
    ∃ ord, ord.Perm sps ∧ Free m (allFieldTys ord) ∧ OrdSourced m ord ∧
      r = (provs ++ fieldProvsOf ord, m ++ keyEntries provs.length (allFieldTys ord)) := by
  obtain ⟨ord, hp, ho⟩ := pass2_ok_ordered h
  exact ⟨ord, hp, pass2Ordered_ok ho⟩

theorem pass2_spec (sps : List PSpec) {provs provs' : List PSpec} {m m' : SupMap}
    (h : pass2 sps provs m = .ok (provs', m')) :
    (∀ t v, m.lookup t = some v → m'.lookup t = some v) ∧ Free m (allFieldTys sps) ∧
    (∀ t, m'.lookup t = none ↔ (m.lookup t = none ∧ t ∉ allFieldTys sps)) := by
  obtain ⟨ord, hp, hf, _, hr⟩ := pass2_closed h
  cases hr
  exact ⟨fun t v hl => List.lookup_append_of_some _ hl, hf.perm (allFieldTys_perm hp),
    fun t => by rw [lookup_append_keyEntries_eq_none, (allFieldTys_perm hp).mem_iff]⟩

theorem pass2_field (sps : List PSpec) {provs provs' : List PSpec} {m m' : SupMap}
    (h : pass2 sps provs m = .ok (provs', m')) {sp : PSpec} (hsp : sp ∈ sps) {fname : String} {t : Nat}
    (hf : (fname, t) ∈ sp.fields) :
    ∃ idx, m'.lookup t = some (idx, 0) ∧ provs'[idx]? = some (mkFieldProv sp.structTy sp.decl fname t) := by
  obtain ⟨ord, hp, hfree, _, hr⟩ := pass2_closed h
  cases hr
  obtain ⟨i, hi, hpi⟩ := fieldProvsOf_getElem? (hp.mem_iff.mpr hsp) hf
  refine ⟨provs.length + i, ?_, ?_⟩
  · rw [List.lookup_append, hfree.2 t (List.mem_of_getElem? hi), Option.none_or,
      lookup_keyEntries_of_getElem? hfree.1 hi]
  · rw [List.getElem?_append_right (Nat.le_add_right ..), Nat.add_sub_cancel_left]; exact hpi

/-- type key `t` eventually gets a supplier during struct expansion — an order-independent notion: it has one in
    the incoming supplier map `m`, or it is a field type of a struct provider of `sps` whose own struct type
    eventually gets a supplier -/
inductive Avail (m : SupMap) (sps : List PSpec) : Nat → Prop
  | base {t : Nat} (h : m.lookup t ≠ none) : Avail m sps t
  | field {t : Nat} (sp : PSpec) (hsp : sp ∈ sps) (hs : Avail m sps sp.structTy) (ht : t ∈ fieldTys sp) : Avail m sps t

theorem Avail.mono {m : SupMap} {sps sps' : List PSpec} {t : Nat} (hsub : ∀ sp ∈ sps, sp ∈ sps')
    (h : Avail m sps t) : Avail m sps' t := by
  induction h with
  | base h => exact .base h
  | field sp hsp _ ht ih => exact .field sp (hsub sp hsp) ih ht

theorem lookup_none_of_not_avail {m : SupMap} {sps : List PSpec} {t : Nat} (h : ¬ Avail m sps t) : m.lookup t = none :=
  Classical.not_not.mp fun hl => h (.base hl)

theorem avail_of_ordSourced {m : SupMap} {sps : List PSpec} (h : OrdSourced m sps) :
    ∀ sp ∈ sps, Avail m sps sp.structTy := by
  refine List.forall_mem_of_prefixes fun pre sp post hs hpre => ?_
  rcases h pre sp post hs with hb | hin
  · exact .base hb
  · obtain ⟨sp', hsp', ht⟩ := List.mem_flatMap.mp hin
    exact .field sp' (by rw [hs]; exact List.mem_append_left _ hsp') (hpre sp' hsp') ht

theorem pass2_avail (sps : List PSpec) {provs provs' : List PSpec} {m m' : SupMap}
    (h : pass2 sps provs m = .ok (provs', m')) : ∀ sp ∈ sps, Avail m sps sp.structTy := by
  obtain ⟨ord, hp, _, hs, _⟩ := pass2_closed h
  exact fun sp hsp => (avail_of_ordSourced hs sp (hp.mem_iff.mpr hsp)).mono fun x hx => hp.mem_iff.mp hx

theorem avail_supplied {sps ord pend : List PSpec} {m : SupMap} {n : Nat} (hp : (ord ++ pend).Perm sps)
    (hn : ∀ sp ∈ pend, (m ++ keyEntries n (allFieldTys ord)).lookup sp.structTy = none)
    {t : Nat} (h : Avail m sps t) : (m ++ keyEntries n (allFieldTys ord)).lookup t ≠ none := by
  induction h with
  | base hb => exact fun hc => hb (lookup_append_keyEntries_eq_none.mp hc).1
  | @field t sp hsp _ ht ih =>
    rcases List.mem_append.mp (hp.mem_iff.mpr hsp) with ho | hpe
    · exact fun hc => (lookup_append_keyEntries_eq_none.mp hc).2 (mem_allFieldTys ho ht)
    · exact absurd (hn sp hpe) ih

theorem pass2_structs (sps : List PSpec) {provs provs' : List PSpec} {m m' : SupMap}
    (h : pass2 sps provs m = .ok (provs', m')) : ∀ sp ∈ sps, ∃ v, m'.lookup sp.structTy = some v := by
  obtain ⟨ord, hp, _, _, hr⟩ := pass2_closed h
  cases hr
  intro sp hsp
  exact Option.ne_none_iff_exists'.mp
    (avail_supplied (pend := []) (by rwa [List.append_nil]) (fun _ h => nomatch h) (pass2_avail sps h sp hsp))

theorem pass2_err (sps : List PSpec) {provs : List PSpec} {m : SupMap} {e : PlanErr}
    (h : pass2 sps provs m = .error e) :
    (∃ t ∈ allFieldTys sps, e = .dup t ∧ ¬ Free m (allFieldTys sps)) ∨
    (∃ sp ∈ sps, e = .orphan sp.structTy ∧ ¬ Avail m sps sp.structTy) := by
  obtain ⟨ord, pend, hp, hc⟩ := pass2_err_cases h
  have hperm := allFieldTys_perm hp
  rw [allFieldTys_append] at hperm
  rcases hc with ⟨ho, t, rfl⟩ | ⟨r, sp, ho, hsp, hn, rfl⟩
  · rcases pass2Ordered_err ho with ⟨t', ht', he, hnf⟩ | ⟨_, _, he, _⟩
    · cases he
      exact Or.inl ⟨t, hperm.mem_iff.mp (List.mem_append_left _ ht'), rfl,
        fun hf => hnf ((free_append 0).mp (hf.perm hperm.symm)).1⟩
    · cases he
  · obtain ⟨_, _, rfl⟩ := pass2Ordered_ok ho
    exact Or.inr ⟨sp, hp.mem_iff.mp (List.mem_append_right _ hsp), rfl,
      fun hav => avail_supplied hp hn hav (hn sp hsp)⟩

/-- **pass 2 succeeds exactly when** the field types are duplicate-free and unsupplied so far, and every struct
    type eventually gets a supplier — a condition on the *set* of struct providers, not on their order -/
theorem pass2_ok_iff (sps : List PSpec) (provs : List PSpec) (m : SupMap) :
    (∃ r, pass2 sps provs m = .ok r) ↔
      ((allFieldTys sps).Nodup ∧ (∀ t ∈ allFieldTys sps, m.lookup t = none) ∧ ∀ sp ∈ sps, Avail m sps sp.structTy) := by
  constructor
  · rintro ⟨⟨provs', m'⟩, h⟩
    obtain ⟨_, ⟨a2, a3⟩, _⟩ := pass2_spec sps h
    exact ⟨a2, a3, pass2_avail sps h⟩
  · rintro ⟨h1, h2, h3⟩
    cases h : pass2 sps provs m with
    | ok r => exact ⟨r, rfl⟩
    | error e =>
      rcases pass2_err sps h with ⟨_, _, _, hn⟩ | ⟨sp, hsp, _, hn⟩
      · exact absurd ⟨h1, h2⟩ hn
      · exact absurd (h3 sp hsp) hn

theorem pass1_ok {provs : List PSpec} {m' : SupMap} (h : pass1 0 provs [] = .ok m') : SupOK provs m' := by
  intro t p gi hl
  obtain ⟨q, hk, _, hlq, rfl⟩ := (pass1_lookup_iff h).mp hl
  rw [List.getD_of_getElem? _ hk]
  exact groupIdx_lt hlq

/-- every field provider has one result group, so the bindings the expansion adds are valid as well -/
theorem pass2_ok (sps : List PSpec) {provs provs' : List PSpec} {m m' : SupMap}
    (h : SupOK provs m) (hr : pass2 sps provs m = .ok (provs', m')) : SupOK provs' m' := by
  obtain ⟨ord, _, _, _, hr⟩ := pass2_closed hr
  cases hr
  intro t p gi hl
  rw [List.lookup_append] at hl
  cases hm : m.lookup t with
  | some v =>
    rw [hm] at hl; cases hl
    rw [List.getD_append_left _ (h.lt hm)]; exact h t p gi hm
  | none =>
    rw [hm, Option.none_or, lookup_keyEntries] at hl
    split at hl
    · rename_i hmem
      cases hl
      have hi := List.idxOf_lt_length_of_mem hmem
      rw [← length_fieldProvsOf] at hi
      obtain ⟨_, _, _, _, hfp⟩ := mem_fieldProvsOf (List.getD_mem_of_lt default hi)
      rw [List.getD_append_right _ (Nat.le_add_right ..), Nat.add_sub_cancel_left, hfp]
      exact Nat.one_pos
    · cases hl

end KV
