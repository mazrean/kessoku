import KV.DataFlow
import KV.BfsFacts
import KV.Acyclic
/-! `plan provs ret = .ok p`, unfolded once for the theorems about the emitted program (`plan_all`) and once for those
    about the graph (`plan_bfs`).  A module of its own, above `KV/DataFlow.lean`: what `KV/EmittedF.lean` imports must
    not import `KV/BfsFacts.lean`, which brings `KV.Reach` (`KV/Closure.lean`): it would shadow `T1F.Reach` where `T1F`
    is opened inside `namespace KV`. -/

namespace KV

structure PlanAll (p : PlanOut) : Prop extends PlanOK p.g p.b p.parent p.chains where
  ret0 : p.g.retNode = 0
  outBack : ∀ n, 0 < n → n < p.g.nodes.length → ∃ e, e ∈ p.g.edges.getD n [] ∧ e.dst < n
  allIn : ∀ n, n < p.g.nodes.length → n ∈ topoOrder p.g

theorem plan_all {provs : List PSpec} {ret : Nat} {p : PlanOut} (h : plan provs ret = .ok p) : PlanAll p := by
  have hok := plan_planOK h
  obtain ⟨_, _, hsup, hg⟩ := newGraph2_graphOf (plan_ok h).1
  obtain ⟨hret0, hback⟩ := graphOf_outBack hsup hg
  exact ⟨hok, hret0, hback, all_in_order hok.gwf hok.order_sound hback (hret0 ▸ hok.retIn)⟩

theorem PlanAll.mem_order {p : PlanOut} (hp : PlanAll p) {n : Nat} : n ∈ topoOrder p.g ↔ n < p.g.nodes.length :=
  ⟨hp.order_lt n, hp.allIn n⟩

theorem PlanAll.mem_thread_iff {p : PlanOut} (hp : PlanAll p) {n : Nat} :
    (∃ t, n ∈ tnodes p t) ↔ n < p.g.nodes.length ∧ isArgNode p.g n = false :=
  ⟨fun ⟨_, ht⟩ => ⟨hp.order_lt n (hp.thread_node ht).1, (hp.thread_node ht).2⟩,
    fun ⟨hn, hna⟩ => hp.provider_thread (hp.allIn n hn) hna⟩

/-- the supplier map exists whenever the declaration is accepted, so the hypothesis `hs` of the theorems that read the
    plan against the supplier map can always be met -/
theorem plan_supplierMap {provs0 : List PSpec} {ret : Nat} {p : PlanOut} (h : plan provs0 ret = .ok p) :
    ∃ provs sup, supplierMap provs0 = .ok (provs, sup) := by
  obtain ⟨provs, sup, hs, _⟩ := supplierMap_of_newGraph2 (plan_ok h).1
  exact ⟨provs, sup, hs⟩

/-- an accepted declaration has a provider node: `buildStmts2` refuses (`noInitial`) unless some pool is initial, an
    initial pool is not empty, and the pools hold provider nodes -/
theorem plan_has_provider_node {provs0 : List PSpec} {ret : Nat} {p : PlanOut} (h : plan provs0 ret = .ok p) :
    ∃ n, n < p.g.nodes.length ∧ (p.g.nodes.getD n default).isArg = false := by
  have hp := plan_all h
  rcases stmtsState_cases p.g p.b.pools with ⟨hst, _⟩ | ⟨i, hi, _⟩
  · have hb := (plan_ok h).2.2
    rw [buildStmts2, hst] at hb
    cases hb
  · obtain ⟨n, hn⟩ := List.exists_mem_of_ne_nil _ (isInitial_nonempty (List.mem_filter.mp hi).2)
    rw [hp.pools] at hn
    exact ⟨n, hp.order_lt n ((hp.p1.sub i).subset hn), hp.p1.not_arg_of_mem_pool hn⟩

/-- The graph of an accepted declaration is read off the drained final state of the BFS from the supplier of the
    requested type.  The other case of `graphOf_cases`, the single argument node of a requested type that nobody
    supplies, has no provider node (the recorded finding `identity-injector-refused`). -/
theorem plan_bfs {provs0 provs : List PSpec} {sup : SupMap} {ret : Nat} {p : PlanOut}
    (h : plan provs0 ret = .ok p) (hs : supplierMap provs0 = .ok (provs, sup)) :
    ∃ rp ri st, sup.lookup ret = some (rp, ri) ∧ BfsFacts provs sup rp st ∧ st.queue = [] ∧
      p.g.nodes = st.nodes ∧ p.g.edges = st.edges ∧ p.g.provs = provs ∧ p.g.retIdx = ri := by
  obtain ⟨n, hn, hna⟩ := plan_has_provider_node h
  have hg := (plan_ok h).1
  rw [newGraph2_of_supplierMap ret hs] at hg
  rcases graphOf_cases (supplierMap_supOK hs) hg with ⟨_, hg⟩ | ⟨rp, ri, st, hl, _, hf, hq, hg⟩
  · rw [hg] at hn hna
    rw [Nat.lt_one_iff.mp hn] at hna
    cases hna
  · rw [hg]
    exact ⟨rp, ri, st, hl, hf, hq, rfl, rfl, rfl, rfl⟩

end KV
