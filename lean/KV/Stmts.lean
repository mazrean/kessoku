import KV.Plan2
import KV.Bfs
/-! `buildStmts` in index form (which pools make up the main thread, which
    become goroutines, in emission order). Must agree with `KV.buildStmts`. -/
namespace KV

structure RSt where
  visited : List Nat        -- pool indices already emitted
  processed : List Nat      -- nodes of emitted pools (plus argument nodes)
  chainIdx : List Nat       -- goroutine pools, emission order
  parentIdx : List Nat      -- pools forming the main thread
  progress : Bool
deriving Repr

def argNodesOf (g : Graph) : List Nat :=
  (List.range g.nodes.length).filter (fun i => (g.nodes.getD i default).isArg)

def firstOf (pools : List (List Nat)) (i : Nat) : Nat := (pools.getD i []).headD 0

def isInitial (g : Graph) (pools : List (List Nat)) (i : Nat) : Bool :=
  !(pools.getD i []).isEmpty && depsIn g (firstOf pools i) (argNodesOf g)

def initStep (pools : List (List Nat)) (st : RSt) (i : Nat) : RSt :=
  if st.visited.contains i then st
  else { st with visited := st.visited ++ [i], processed := st.processed ++ pools.getD i [],
                 chainIdx := st.chainIdx ++ [i] }

def roundStep (g : Graph) (pools : List (List Nat)) (st : RSt) (i : Nat) : RSt :=
  if st.visited.contains i || (pools.getD i []).isEmpty then st
  else if depsIn g (firstOf pools i) st.processed then
    if isAsyncNode g (firstOf pools i) then
      { st with visited := st.visited ++ [i], processed := st.processed ++ pools.getD i [],
                chainIdx := st.chainIdx ++ [i], progress := true }
    else
      { st with visited := st.visited ++ [i], processed := st.processed ++ pools.getD i [],
                parentIdx := st.parentIdx ++ [i], progress := true }
  else st

def round (g : Graph) (pools : List (List Nat)) (st : RSt) : RSt :=
  (List.range pools.length).foldl (roundStep g pools) { st with progress := false }

def rounds (g : Graph) (pools : List (List Nat)) : Nat → RSt → RSt
  | 0, st => st
  | k + 1, st =>
    let st' := round g pools st
    if st'.progress then rounds g pools k st' else st'

def stmtsState (g : Graph) (pools : List (List Nat)) : Option RSt :=
  let initial := (List.range pools.length).filter (isInitial g pools)
  if initial.isEmpty then none
  else
    let pidx := (initial.find? (fun i => !isAsyncNode g (firstOf pools i))).getD (initial.headD 0)
    let st0 : RSt := { visited := [pidx], processed := argNodesOf g ++ pools.getD pidx [], chainIdx := [],
                       parentIdx := [pidx], progress := false }
    let st1 := initial.foldl (initStep pools) st0
    some (rounds g pools (pools.length + 1) st1)

def buildStmts2 (g : Graph) (pools : List (List Nat)) : Except PlanErr (List Nat × List (List Nat)) :=
  match stmtsState g pools with
  | none => .error .noInitial
  | some st => .ok (st.parentIdx.flatMap (pools.getD · []), st.chainIdx.map (pools.getD · []))

def planDump3 (provs : List PSpec) (ret : Nat) : String :=
  match newGraph2 provs ret with
  | .error e => s!"ERR {errStr e}"
  | .ok g =>
    match build2 g with
    | .error e => s!"ERR {errStr e}"
    | .ok b =>
      match buildStmts2 g b.pools with
      | .error e => s!"ERR {errStr e}"
      | .ok (parent, chains) =>
        let hasAsync := (List.range g.nodes.length).any (isAsyncNode g)
        let argTys := b.args.map (fun pi => (g.nodes.getD (b.params.getD pi default).node default).ty)
        let thr := fun (l : List Nat) => " ".intercalate (l.map (dumpCall false g b))
        s!"OK async={hasAsync} err={b.isErr} args={argTys} main=[{thr parent}] go=[{" | ".intercalate (chains.map thr)}]"

end KV
